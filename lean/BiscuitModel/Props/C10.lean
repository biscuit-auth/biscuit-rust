/-
  C10 — evaluation budgets are enforced.

  Facts and iterations: proved for the engine loop and, cumulatively, for any history of
  calls on one authorizer.  Time: the engine's clock is the abstract `Limits.timeoutAt`
  (the index of the first checkpoint at which the clock has passed the deadline); wall-clock
  promptness is runtime behaviour and is not expressible here (DESIGN.md, C10).
-/
import BiscuitModel.Model.Limits
import BiscuitModel.Lemmas.Datalog
namespace Biscuit.C10
open Biscuit

/-- **A successful run stayed within the fact budget** — including the facts that were there
    before the first iteration. -/
theorem run_ok_within_facts (syms : SymbolTable) (rules : List SRule) (lim : Limits) (facts : List (List Nat × Fact))
    (h : (run syms rules lim facts).result = .ok ()) :
    (run syms rules lim facts).facts.length < lim.maxFacts :=
  (runLoop_ok h).2.1

/-- **A successful run stayed within the iteration budget**: it either derived nothing, or made
    fewer productive iterations than `max_iterations` — also for `max_iterations = 0`. -/
theorem run_ok_within_iterations (syms : SymbolTable) (rules : List SRule) (lim : Limits) (facts : List (List Nat × Fact))
    (h : (run syms rules lim facts).result = .ok ()) :
    (run syms rules lim facts).iterations = 0 ∨ (run syms rules lim facts).iterations < lim.maxIterations :=
  (runLoop_ok h).2.2.imp_right And.right

/-- exhausting a budget is an error, never a success -/
theorem limit_hit_is_error (syms : SymbolTable) (rules : List SRule) (lim : Limits) (facts : List (List Nat × Fact))
    (h : lim.maxFacts ≤ (run syms rules lim facts).facts.length ∨
         (0 < (run syms rules lim facts).iterations ∧ lim.maxIterations ≤ (run syms rules lim facts).iterations)) :
    (run syms rules lim facts).result ≠ .ok () := by
  intro hok
  exact h.elim (Nat.not_le.2 (run_ok_within_facts syms rules lim facts hok)) fun hi =>
    (run_ok_within_iterations syms rules lim facts hok).elim (Nat.ne_of_gt hi.1) fun c => Nat.not_le.2 c hi.2

theorem run_never_out_of_fuel (syms : SymbolTable) (rules : List SRule) (lim : Limits) (facts : List (List Nat × Fact)) :
    (run syms rules lim facts).result ≠ .error .outOfFuel :=
  runLoop_fuel (Nat.lt_succ_self _) (Nat.zero_le _)

/-- **Timeout at a checkpoint**: if the clock has passed the deadline at the checkpoint that
    follows the `k`-th productive iteration (and no other limit is hit there), the run stops
    there with `Timeout` — it does not continue. -/
theorem timeout_at_checkpoint (syms : SymbolTable) (rules : List SRule) (lim : Limits) (fuel index : Nat)
    (facts new : List (List Nat × Fact))
    (hnew : collect (stepResults syms rules facts) = .ok new)
    (hgrow : (factMerge facts new).length ≠ facts.length)
    (hi : ¬ lim.maxIterations ≤ index + 1) (hf : ¬ lim.maxFacts ≤ (factMerge facts new).length)
    (ht : lim.timeoutAt = some (index + 1)) :
    runLoop syms rules lim (fuel + 1) index facts = ⟨factMerge facts new, index + 1, .error .timeout⟩ := by
  simp [runLoop, hnew, hgrow, hi, hf, ht]

/-! ## cumulative accounting over histories of calls -/

def Within (lim : Limits) (s : AzState) : Prop :=
  s.done = true → s.facts.length < lim.maxFacts ∧ (s.iterations = 0 ∨ s.iterations < lim.maxIterations)

theorem within_init (lim : Limits) (blocks : List Block) (az : AuthorizerData) :
    Within lim (AzState.init blocks az) := by
  intro h; simp [AzState.init] at h

theorem within_run (syms : SymbolTable) (rules : List SRule) (lim : Limits) (s : AzState) (h : Within lim s) :
    Within lim (s.run syms rules lim).1 := by
  unfold AzState.run
  by_cases hd : s.done = true
  · rwa [if_pos hd]
  · rw [if_neg hd]
    by_cases hpre : 0 < s.iterations ∧ lim.maxIterations ≤ s.iterations
    · rwa [if_pos hpre]
    · rw [if_neg hpre]
      intro hdone
      dsimp only at hdone ⊢
      cases hr : (run syms rules { lim with maxIterations := lim.maxIterations - s.iterations } s.facts).result with
      | error e => rw [hr] at hdone; simp at hdone
      | ok u =>
        have h2 := run_ok_within_iterations syms rules _ s.facts hr
        simp only at h2
        refine ⟨run_ok_within_facts syms rules _ s.facts hr, ?_⟩
        rcases h2 with e | h
        · -- nothing derived: the counter stays where it was, below the budget unless it is 0
          rw [e]
          exact (Nat.eq_zero_or_pos s.iterations).imp id fun hp => Nat.lt_of_not_le fun hM => hpre ⟨hp, hM⟩
        · exact .inr (Nat.add_lt_of_lt_sub' h)

theorem run_ok_done (syms : SymbolTable) (rules : List SRule) (lim : Limits) (s : AzState)
    (h : (s.run syms rules lim).2 = .ok ()) : (s.run syms rules lim).1.done = true := by
  unfold AzState.run at h ⊢
  by_cases hd : s.done = true
  · rwa [if_pos hd]
  · rw [if_neg hd] at h ⊢
    by_cases hpre : 0 < s.iterations ∧ lim.maxIterations ≤ s.iterations
    · rw [if_pos hpre] at h; cases h
    · rw [if_neg hpre] at h ⊢; dsimp only at h ⊢; rw [h]

theorem call_fst (syms : SymbolTable) (blocks : List Block) (az : AuthorizerData) (lim : Limits)
    (s : AzState) (c : AzCall) :
    (s.call syms blocks az lim c).1 = (s.run syms (worldRules blocks az) lim).1 := by
  unfold AzState.call
  simp only
  split
  · rfl
  · split
    · rfl
    · split <;> rfl

theorem call_of_run_error (syms : SymbolTable) (blocks : List Block) (az : AuthorizerData) (lim : Limits)
    (s : AzState) (c : AzCall) (e : RunErr) (h : (s.run syms (worldRules blocks az) lim).2 = .error e) :
    (s.call syms blocks az lim c).2 = .decision (.runError e) := by
  unfold AzState.call
  simp only [h]

theorem within_op (syms : SymbolTable) (blocks : List Block) (az : AuthorizerData) (lim : Limits)
    (s : AzState) (o : AzOp) (h : Within lim s) : Within lim (s.op syms blocks az lim o).1 := by
  cases o with
  | call c => exact call_fst syms blocks az lim s c ▸ within_run syms _ lim s h
  | restore => exact h

/-- **Cumulative accounting, across snapshots too.** After any history of `authorize` / `query` /
    `query_all` calls on one authorizer — including histories in which earlier calls hit a limit,
    and in which the authorizer is replaced, any number of times and at any point, by what its own
    snapshot restores (in the model the same state: `AzState.restore` is the identity) — whenever the engine run is complete (which every successful call
    requires), the authorizer holds fewer facts than `max_facts` and reports either no iteration or
    fewer than `max_iterations`: the budget spent before stays spent. -/
theorem history_with_restores_within_budget (syms : SymbolTable) (blocks : List Block) (az : AuthorizerData) (lim : Limits) :
    ∀ (os : List AzOp) (s : AzState), Within lim s → Within lim (AzState.ops syms blocks az lim s os).1 := by
  intro os
  induction os with
  | nil => intro s h; exact h
  | cons o _ ih => intro s h; exact ih _ (within_op syms blocks az lim s o h)

theorem calls_eq_ops (syms : SymbolTable) (blocks : List Block) (az : AuthorizerData) (lim : Limits) :
    ∀ (cs : List AzCall) (s : AzState),
      (AzState.calls syms blocks az lim s cs).1 = (AzState.ops syms blocks az lim s (cs.map .call)).1 := by
  intro cs
  induction cs with
  | nil => intro s; rfl
  | cons c _ ih => intro s; exact ih _

/-- **Cumulative accounting** for histories of calls alone. -/
theorem history_within_budget (syms : SymbolTable) (blocks : List Block) (az : AuthorizerData) (lim : Limits) :
    ∀ (cs : List AzCall) (s : AzState), Within lim s → Within lim (AzState.calls syms blocks az lim s cs).1 :=
  fun cs s h => calls_eq_ops syms blocks az lim cs s ▸
    history_with_restores_within_budget syms blocks az lim (cs.map .call) s h

/-- once the iteration budget is used up, a further call does not run the engine again -/
theorem exhausted_budget_refuses (syms : SymbolTable) (rules : List SRule) (lim : Limits) (s : AzState)
    (hd : s.done = false) (hpos : 0 < s.iterations) (hex : lim.maxIterations ≤ s.iterations) :
    s.run syms rules lim = (s, .error .tooManyIterations) := by
  simp [AzState.run, hd, hpos, hex]

/-- `exhausted_budget_refuses` at `s.restore`, which the model defines as `s` (`AzState.restore`):
    nothing more about snapshots is proved here -/
theorem restored_exhausted_refuses (syms : SymbolTable) (rules : List SRule) (lim : Limits) (s : AzState)
    (hd : s.done = false) (hpos : 0 < s.iterations) (hex : lim.maxIterations ≤ s.iterations) :
    s.restore.run syms rules lim = (s, .error .tooManyIterations) :=
  exhausted_budget_refuses syms rules lim s hd hpos hex

/-- a call that does not end in a run-limit or engine error has completed the run: its
    counters are within the budget -/
theorem successful_call_within_budget (syms : SymbolTable) (blocks : List Block) (az : AuthorizerData) (lim : Limits)
    (s : AzState) (c : AzCall) (h : Within lim s)
    (hok : ∀ e, (s.call syms blocks az lim c).2 ≠ .decision (.runError e)) :
    (s.call syms blocks az lim c).1.facts.length < lim.maxFacts ∧
    ((s.call syms blocks az lim c).1.iterations = 0 ∨ (s.call syms blocks az lim c).1.iterations < lim.maxIterations) := by
  rw [call_fst]
  apply within_run syms _ lim s h
  apply run_ok_done
  cases hr : (s.run syms (worldRules blocks az) lim).2 with
  | error e => exact absurd (call_of_run_error syms blocks az lim s c e hr) (hok e)
  | ok u => rfl

/-! ## non-vacuity -/

/-- eight initial facts, `max_facts = 5`, nothing to derive: refused (the repaired defect C10-initial-facts, DESIGN.md §9.1) -/
example : (run ⟨[]⟩ [] ⟨5, 100, none⟩ ((List.range 8).map fun i => ([0], (⟨1024, [.int (Int.ofNat i)]⟩ : Fact)))).result
    = .error .tooManyFacts := by decide +kernel

end Biscuit.C10
