/-
  C14 — printed Datalog parses back to the same program.

  Proved here, for all inputs:
    * `string_lit_round_trip` : whatever the contents of a string (quotes, backslashes,
      newlines, any scalar value) and whatever text follows the literal, the string parser
      reads the printed literal back as exactly that string and stops right after the
      closing quote — no string value can make printed text parse as different code;
    * `hex_round_trip`, `int_round_trip` : the same for byte strings and 64-bit integers;
    * `postfix_print_infix` : `Expression::print`, a stack machine over postfix ops, renders
      the op list of a tree as the infix text of that tree, with exactly the parentheses
      that are explicit `Parens` nodes;
    * `singleton_set_prints_as_parameter` : the printer is *not* injective — the witness of
      the known finding C14-singleton-set-parameter.
  The parsers built on these literals are treated in Props/C14Terms (terms, facts), C14Expr
  (expressions), C14Rules (rules, checks, policies) and C14Blocks (blocks, authorizer sources).
-/
import BiscuitModel.Model.Printer
namespace Biscuit.Printer

theorem takeWhile_append_of_all {α} (p : α → Bool) (xs rest : List α) (h : ∀ x ∈ xs, p x = true)
    (hr : ∀ c, rest.head? = some c → p c = false) :
    (xs ++ rest).takeWhile p = xs ∧ (xs ++ rest).dropWhile p = rest := by
  rw [List.takeWhile_append_of_pos h, List.dropWhile_append_of_pos h]
  cases rest with
  | nil => exact ⟨List.append_nil xs, rfl⟩
  | cons c cs =>
    have hc : ¬ p c = true := by rw [hr c rfl]; exact Bool.false_ne_true
    rw [List.takeWhile_cons_of_neg hc, List.dropWhile_cons_of_neg hc]
    exact ⟨List.append_nil xs, rfl⟩

/-! ## strings -/

theorem parseStrBody_escape (s rest : List Char) :
    parseStrBody (escape s ++ '"' :: rest) = some (s, rest) := by
  induction s with
  | nil => simp [escape]; unfold parseStrBody; simp
  | cons c cs ih =>
    by_cases h1 : c = '\\'
    · subst h1; simp [escape, parseStrBody, ih]
    · by_cases h2 : c = '"'
      · subst h2; simp [escape, parseStrBody, ih]
      · simp only [escape, if_neg h1, if_neg h2, List.cons_append]
        unfold parseStrBody
        simp [h1, h2, ih]

/-- C14, strings: printed literal followed by any text parses back to the same string and
    leaves exactly that text -/
theorem string_lit_round_trip (s rest : List Char) :
    parseString (printStringChars s ++ rest) = some (s, rest) := by
  simp [printStringChars, parseString, parseStrBody_escape]

/-- non-vacuity and a concrete instance: a string that looked like two terms before the fix -/
example : parseString (printStringChars "x\", \"y".toList ++ ")".toList) = some ("x\", \"y".toList, ")".toList) :=
  string_lit_round_trip _ _

/-! ## bytes -/

theorem hexVal_hexDigit : ∀ n : Fin 16, hexVal (hexDigit n.val) = some n.val := by decide +kernel

theorem hexEncode_forall {P : Char → Prop} (h : ∀ n : Fin 16, P (hexDigit n.val)) (bs : List UInt8) : ∀ c ∈ hexEncode bs, P c := by
  induction bs with
  | nil => intro c hc; cases hc
  | cons b bs ih =>
    intro c hc
    simp only [hexEncode, List.mem_cons] at hc
    rcases hc with rfl | rfl | hc
    · exact h ⟨b.toNat / 16, Nat.div_lt_of_lt_mul b.toNat_lt⟩
    · exact h ⟨b.toNat % 16, Nat.mod_lt _ (by decide)⟩
    · exact ih c hc

theorem hexEncode_all (bs : List UInt8) : ∀ c ∈ hexEncode bs, isHexDigit c = true :=
  hexEncode_forall (fun n => by rw [isHexDigit, hexVal_hexDigit n]; rfl) bs

theorem decodePairs_hexEncode_append (bs : List UInt8) (e : List Char) :
    decodePairs (hexEncode bs ++ e) = (decodePairs e).map (bs ++ ·) := by
  induction bs with
  | nil => simp [hexEncode]
  | cons b bs ih =>
    have h1 := hexVal_hexDigit ⟨b.toNat / 16, Nat.div_lt_of_lt_mul b.toNat_lt⟩
    have h2 := hexVal_hexDigit ⟨b.toNat % 16, Nat.mod_lt _ (by decide)⟩
    simp only [hexEncode, List.cons_append, decodePairs, h1, h2, ih]
    cases decodePairs e <;> simp [Nat.div_add_mod]

theorem decodePairs_hexEncode (bs : List UInt8) : decodePairs (hexEncode bs) = some bs := by
  simpa [decodePairs] using decodePairs_hexEncode_append bs []

theorem parseHex_hexEncode_append (bs : List UInt8) (hne : bs ≠ []) (e : List Char) :
    parseHex (hexEncode bs ++ e)
      = (decodePairs (e.takeWhile isHexDigit)).map fun d => (bs ++ d, e.dropWhile isHexDigit) := by
  unfold parseHex
  rw [List.takeWhile_append_of_pos (hexEncode_all bs), List.dropWhile_append_of_pos (hexEncode_all bs)]
  cases bs with
  | nil => exact absurd rfl hne
  | cons b bs =>
    have hd := decodePairs_hexEncode_append (b :: bs) (e.takeWhile isHexDigit)
    simp only [hexEncode, List.cons_append] at hd ⊢
    rw [hd, Option.map_map]
    rfl

/-- C14, bytes: a non-empty byte string, printed and followed by anything that is not a hex
    digit (in printed Datalog: `,`, `)`, `]`, `}`, `.`, space, `;`), parses back unchanged -/
theorem hex_round_trip (bs : List UInt8) (rest : List Char) (hne : bs ≠ [])
    (hr : ∀ c, rest.head? = some c → isHexDigit c = false) :
    parseHex (hexEncode bs ++ rest) = some (bs, rest) := by
  have hs := takeWhile_append_of_all isHexDigit [] rest (by simp) hr
  simp only [List.nil_append] at hs
  simp [parseHex_hexEncode_append bs hne, hs.1, hs.2, decodePairs]

example : parseHex (hexEncode [0x00, 0xff] ++ ")".toList) = some ([0x00, 0xff], ")".toList) :=
  hex_round_trip _ _ (List.cons_ne_nil _ _) (by decide)

/-! ## integers -/

theorem toDigits_all_digit (n : Nat) : ∀ c ∈ Nat.toDigits 10 n, Char.isDigit c = true :=
  fun _ hc => Nat.isDigit_of_mem_toDigits (by decide) (by decide) hc

theorem parseDigits_run (ds rest : List Char) (hne : ds ≠ []) (hall : ∀ c ∈ ds, Char.isDigit c = true)
    (hr : ∀ c, rest.head? = some c → Char.isDigit c = false) :
    parseDigits (ds ++ rest) = some (Nat.ofDigitChars 10 ds 0, rest) := by
  have hs := takeWhile_append_of_all Char.isDigit ds rest hall hr
  unfold parseDigits
  rw [hs.1, hs.2]
  cases ds with
  | nil => exact absurd rfl hne
  | cons c tl => rfl

theorem parseDigits_toDigits (n : Nat) (rest : List Char)
    (hr : ∀ c, rest.head? = some c → Char.isDigit c = false) :
    parseDigits (Nat.toDigits 10 n ++ rest) = some (n, rest) := by
  rw [parseDigits_run _ rest Nat.toDigits_ne_nil (toDigits_all_digit n) hr, Nat.ofDigitChars_ten_toDigits]

theorem toDigits_head (n : Nat) : ∃ d ds, Nat.toDigits 10 n = d :: ds ∧ Char.isDigit d = true := by
  cases h : Nat.toDigits 10 n with
  | nil => exact absurd h Nat.toDigits_ne_nil
  | cons d ds => exact ⟨d, ds, rfl, toDigits_all_digit n d (h ▸ List.mem_cons_self)⟩

theorem parseInt_rt (i : Int) (rest : List Char) (hi : inI64 i = true)
    (hr : ∀ c, rest.head? = some c → Char.isDigit c = false) :
    parseInt (printIntChars i ++ rest) = some (i, rest) := by
  unfold printIntChars printNatChars
  by_cases hneg : i < 0
  · have h1 : (-(((-i).toNat : Nat) : Int)) = i := by
      rw [Int.toNat_of_nonneg (Int.neg_nonneg_of_nonpos (Int.le_of_lt hneg)), Int.neg_neg]
    simp only [hneg, ↓reduceIte, List.cons_append, parseInt, parseDigits_toDigits _ _ hr, h1, hi]
  · have h1 : ((i.toNat : Nat) : Int) = i := Int.toNat_of_nonneg (Int.not_lt.mp hneg)
    have hp := parseDigits_toDigits i.toNat rest hr
    rw [if_neg hneg]
    obtain ⟨d, ds, hd, hdig⟩ := toDigits_head i.toNat
    have hm : d ≠ '-' := fun e => absurd (e ▸ hdig) (by decide)
    rw [hd, List.cons_append] at hp ⊢
    simp [parseInt, hm, hp, h1, hi]

/-- C14, integers: every 64-bit integer, printed and followed by anything that is not a
    digit, parses back unchanged -/
theorem int_round_trip (i : Int) (rest : List Char) (hlo : -(2 ^ 63 : Int) ≤ i) (hhi : i < (2 ^ 63 : Int))
    (hr : ∀ c, rest.head? = some c → Char.isDigit c = false) :
    parseInt (printIntChars i ++ rest) = some (i, rest) :=
  parseInt_rt i rest (by simp only [inI64, Bool.and_eq_true, decide_eq_true_eq]; exact ⟨hlo, hhi⟩) hr

example : parseInt (printIntChars (-9223372036854775808) ++ ", 1)".toList) = some (-9223372036854775808, ", 1)".toList) :=
  int_round_trip _ _ (by decide) (by decide) (by decide)

/-! ## expressions -/

theorem postfix_print_infix (e : ETree) : ∀ (k : List POp) (st : List String),
    printOpsAux (opcodes e ++ k) st = printOpsAux k (showTree e :: st) := by
  induction e with
  | val t => intro k st; simp [opcodes, showTree, printOpsAux]
  | un u a ih =>
    intro k st
    simp only [opcodes, showTree, List.append_assoc, List.singleton_append]
    rw [ih]
    simp [printOpsAux]
  | bin b l r ihl ihr =>
    intro k st
    simp only [opcodes, showTree, List.append_assoc, List.singleton_append]
    rw [ihl, ihr]
    simp [printOpsAux]
  | clo ps body ih =>
    intro k st
    have := ih [] []
    simp only [List.append_nil] at this
    simp [opcodes, showTree, printOpsAux, this]

/-- C14, operator structure: printing the ops of a tree gives the tree's infix text; no
    parenthesis is invented or lost by the printer -/
theorem printExpr_opcodes (e : ETree) : printExpr (opcodes e) = some (showTree e) := by
  have := postfix_print_infix e [] []
  simp only [List.append_nil] at this
  simp [printExpr, this, printOpsAux]

example : printExpr (opcodes (.bin .add (.un .parens (.bin .mul (.val (.int 1)) (.val (.int 2)))) (.val (.var "x"))))
    = some "(1 * 2) + $x" := by
  rw [printExpr_opcodes]; decide +kernel

/-! ## the printer is not injective on terms (known finding C14-singleton-set-parameter) -/

theorem singleton_set_prints_as_parameter :
    printTerm (.set [.bool true]) = printTerm (.param "true")
    ∧ printTerm (.set [.null]) = printTerm (.param "null")
    ∧ printTerm (.set [.bytes [0]]) = printTerm (.param "hex:00") := by
  decide +kernel

theorem ambiguous_flags_it : ambiguous (.set [.bool true]) = true ∧ ambiguous (.arr [.set [.null]]) = true
    ∧ ambiguous (.set [.int 1]) = false := by decide +kernel

end Biscuit.Printer
