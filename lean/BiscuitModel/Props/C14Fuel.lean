/-
  C14 — the fuel the driver gives the statement-, block- and authorizer-level parser models
  (`fuelOf text = 50·|text| + 50`, loop bound `|text| + 2`) is enough for every text the printer
  writes: `block_round_trip` and `source_round_trip` without fuel hypotheses.
-/
import BiscuitModel.Props.C14Blocks
namespace Biscuit.BlockParser
open Biscuit.Printer Biscuit.TermParser Biscuit.ExprParser Biscuit.RuleParser

/-- after the elements of a body: one unit of fuel for each of `sc` scopes, written with at least `sc` characters, and two more -/
theorem cover_scopes {e sc n S : Nat} (K C : Nat) (hK : 1 ≤ K) (he : e ≤ K * n + C) (hs : sc ≤ S) :
    e + sc + 2 ≤ K * (n + S) + (C + 2) := by
  rw [Nat.mul_add, ← Nat.add_assoc, Nat.add_right_comm (K * n)]
  exact Nat.add_le_add_right (Nat.add_le_add he (Nat.le_trans hs (Nat.le_mul_of_pos_left S hK))) 2

theorem scopes_mid {n t : Nat} (p a q : Nat) (h : n ≤ t) (hp : 1 ≤ p) : n + 1 ≤ p + (a + (t + q)) :=
  Nat.add_comm n 1 ▸ Nat.add_le_add hp (Nat.le_trans h (Nat.le_trans (Nat.le_add_right t q) (Nat.le_add_left _ a)))

theorem needVs_tail_le {dateP} (ts : List STerm) : wfVs dateP ts = true → needVs ts ≤ 5 * (tailC ts).length + 3 := by
  induction ts with
  | nil => exact fun _ => by decide
  | cons t ts ih =>
    intro h
    simp only [wfVs, Bool.and_eq_true] at h
    simp only [needVs, tailC, List.length_cons, List.length_append]
    exact cover_cons 5 3 2 (by decide) (by decide) (Nat.add_le_add_right (needV_le h.1) 1) (ih h.2)

theorem needVs_le {dateP} (ts : List STerm) (h : wfVs dateP ts = true) : needVs ts ≤ 5 * (termsC ts).length + 3 := by
  cases ts with
  | nil => decide
  | cons t ts =>
    simp only [wfVs, Bool.and_eq_true] at h
    simp only [needVs, termsC, List.length_append]
    exact cover_head 5 3 (by decide) (by decide) (termC_pos_of_wfV h.1) (Nat.add_le_add_right (needV_le h.1) 1) (needVs_tail_le ts h.2)

theorem needPred_le {dateP} (p : SPred) (h : wfPredAny dateP p = true) : needVs p.terms ≤ 50 * (predC p).length + 3 := by
  simp only [wfPredAny, Bool.and_eq_true] at h
  refine cover_mono (needVs_le p.terms h.2) (by decide) ?_ (Nat.le_refl 3)
  simp only [predC, List.length_append, List.length_cons]
  exact Nat.le_trans (Nat.le_add_right _ _) (Nat.le_succ_of_le (Nat.le_add_left _ _))

theorem needElem_le {dateP} (x : SPred ⊕ ETree) (h : wfElem dateP x = true) :
    needElem x ≤ 50 * (elemC x).length + 40 ∧ 1 ≤ (elemC x).length := by
  obtain ⟨c, tl, hs, _⟩ := elemC_head x h
  refine ⟨?_, by rw [hs]; exact Nat.succ_pos _⟩
  cases x with
  | inl p => exact cover_mono (needPred_le p h) (Nat.le_refl 50) (Nat.le_refl _) (by decide)
  | inr e => exact Nat.add_le_add_right (Gram.of_wfE e h).needE_le 40

theorem needElems_tail_le {dateP} (xs : List (SPred ⊕ ETree)) : (∀ x ∈ xs, wfElem dateP x = true) →
    needElems xs ≤ 50 * (tailElemsC xs).length + 42 := by
  induction xs with
  | nil => exact fun _ => by decide
  | cons x xs ih =>
    intro h
    simp only [needElems, tailElemsC, List.length_cons, List.length_append]
    exact cover_cons 50 42 2 (by decide) (by decide) (needElem_le x (h x List.mem_cons_self)).1
      (ih fun y hy => h y (List.mem_cons_of_mem _ hy))

theorem scopes_len_tail (scs : List SScope) : scs.length ≤ (tailScopesC scs).length := by
  induction scs with
  | nil => exact Nat.le_refl 0
  | cons s scs ih =>
    simp only [tailScopesC, List.length_cons, List.length_append]
    exact Nat.succ_le_succ (Nat.le_succ_of_le (Nat.le_trans ih (Nat.le_add_left _ _)))

theorem scopes_len (scs : List SScope) : scs.length ≤ (scopesC scs).length := by
  cases scs with
  | nil => exact Nat.le_refl 0
  | cons s scs =>
    simp only [scopesC, List.length_cons, List.length_append]
    exact scopes_mid _ _ 0 (scopes_len_tail scs) (by decide)

theorem needBody_le {dateP} (b : Body) (hw : WfBody dateP b) : needBody b ≤ 50 * (bodyC b).length + 44 ∧ 1 ≤ (bodyC b).length := by
  unfold needBody bodyC
  cases he : elems b with
  | nil => exact absurd he hw.nonempty
  | cons x xs =>
    have hwx : ∀ y ∈ x :: xs, wfElem dateP y = true := by rw [← he]; exact hw.elems_wf
    obtain ⟨h1, h3⟩ := needElem_le x (hwx x List.mem_cons_self)
    have h2 := needElems_tail_le xs (fun y hy => hwx y (List.mem_cons_of_mem _ hy))
    simp only [needElems, List.length_append]
    refine ⟨?_, Nat.le_trans h3 (Nat.le_add_right _ _)⟩
    rw [← Nat.add_assoc]
    exact cover_scopes 50 42 (by decide) (cover_head 50 42 (by decide) (by decide) h3 h1 h2) (scopes_len b.scopes)

theorem needBodies_tail_le {dateP} (bs : List Body) : (∀ y ∈ bs, WfBody dateP y) →
    needBodies bs ≤ 50 * (tailBodiesC bs).length + 46 := by
  induction bs with
  | nil => exact fun _ => by decide
  | cons b bs ih =>
    intro h
    simp only [needBodies, tailBodiesC, List.length_cons, List.length_append]
    exact cover_cons 50 46 4 (by decide) (by decide) (needBody_le b (h b List.mem_cons_self)).1
      (ih fun y hy => h y (List.mem_cons_of_mem _ hy))

theorem needBodies_le {dateP} (b : Body) (bs : List Body) (h : ∀ y ∈ b :: bs, WfBody dateP y) :
    needBodies (b :: bs) ≤ 50 * ((bodyC b).length + (tailBodiesC bs).length) + 46 := by
  obtain ⟨h1, h3⟩ := needBody_le b (h b List.mem_cons_self)
  simp only [needBodies]
  exact cover_head 50 46 (by decide) (by decide) h3 h1 (needBodies_tail_le bs fun y hy => h y (List.mem_cons_of_mem _ hy))

theorem fact_need {dateP} (f : SPred) (hw : wfPred dateP f = true) (X : List Char) : needL f.terms + 2 ≤ fuelOf (predC f ++ X) := by
  refine cover_mono (show _ ≤ 5 * _ + 6 from Nat.add_le_add_right (needL_le f.terms .fact (wfPred_parts hw).2.2) 2)
    (by decide) ?_ (by decide)
  simp only [predC, List.length_append, List.length_cons]
  exact Nat.le_trans (Nat.le_trans (Nat.le_add_right _ _) (Nat.le_succ_of_le (Nat.le_add_left _ _))) (Nat.le_add_right _ _)

theorem rule_need {dateP} (head : SPred) (b : Body) (hwh : wfPredAny dateP head = true) (hw : WfBody dateP b) (X : List Char) :
    needVs head.terms + needBody b ≤ fuelOf (predC head ++ ' ' :: '<' :: '-' :: ' ' :: (bodyC b ++ X)) := by
  have h := Nat.add_le_add (needPred_le head hwh) (needBody_le b hw).1
  rw [Nat.add_add_add_comm, ← Nat.mul_add] at h
  refine cover_mono h (Nat.le_refl 50) ?_ (by decide)
  simp only [List.length_append, List.length_cons]
  exact Nat.add_le_add_left (Nat.le_trans (Nat.le_add_right _ _) (Nat.le_add_right _ 4)) _

theorem kw_need {dateP} (kw : List Char) (b : Body) (bs : List Body) (hw : ∀ y ∈ b :: bs, WfBody dateP y) (X : List Char) :
    needBodies (b :: bs) ≤ fuelOf (kw ++ ' ' :: (bodyC b ++ (tailBodiesC bs ++ X))) := by
  refine cover_mono (needBodies_le b bs hw) (Nat.le_refl 50) ?_ (by decide)
  simp only [List.length_append, List.length_cons]
  exact Nat.le_trans (Nat.add_le_add_left (Nat.le_add_right _ _) _) (Nat.le_trans (Nat.le_succ _) (Nat.le_add_left _ _))

theorem stmt_nonempty (s : List Char) (c : Char) (t : List Char) : 1 ≤ (s ++ c :: t).length :=
  List.length_pos_iff.mpr (List.append_ne_nil_of_right_ne_nil _ (List.cons_ne_nil _ _))

theorem kw_fuel {κ : Type} {dateP} (kindC : κ → List Char) (stmtC : κ × List Body → List Char)
    (hs : ∀ k b bs, stmtC (k, b :: bs) = kindC k ++ ' ' :: (bodyC b ++ (tailBodiesC bs ++ [';', '\n'])))
    (c : κ × List Body) (hne : c.2 ≠ []) (hw : ∀ y ∈ c.2, WfBody dateP y) :
    needBodies c.2 ≤ fuelOf (stmtC c) ∧ 1 ≤ (stmtC c).length := by
  obtain ⟨k, b, bs, rfl⟩ := kw_cons c hne
  rw [hs]
  exact ⟨kw_need (kindC k) b bs hw _, stmt_nonempty _ _ _⟩

/-! ## every statement is shorter than the text it is in -/

theorem fuelOf_mono {s t : List Char} (h : s.length ≤ t.length) : fuelOf s ≤ fuelOf t :=
  Nat.add_le_add_right (Nat.mul_le_mul_left 50 h) 50

theorem length_le_flatMap {α : Type} (f : α → List Char) (l : List α) (x : α) (hx : x ∈ l) : (f x).length ≤ (l.flatMap f).length :=
  (List.sublist_flatten_of_mem (List.mem_map_of_mem hx)).length_le

theorem count_le_flatMap {α : Type} (f : α → List Char) (l : List α) :
    (∀ x ∈ l, 1 ≤ (f x).length) → l.length ≤ (l.flatMap f).length := by
  induction l with
  | nil => exact fun _ => Nat.le_refl 0
  | cons a l ih =>
    intro h
    rw [List.length_cons, List.flatMap_cons, List.length_append, Nat.add_comm]
    exact Nat.add_le_add (h a List.mem_cons_self) (ih fun x hx => h x (List.mem_cons_of_mem _ hx))

theorem section_fuel {α : Type} (stmt : α → List Char) (need : α → Nat) (xs : List α) (text : List Char)
    (hlen : (xs.flatMap stmt).length ≤ text.length) (h : ∀ x ∈ xs, need x ≤ fuelOf (stmt x) ∧ 1 ≤ (stmt x).length) :
    (∀ x ∈ xs, need x ≤ fuelOf text) ∧ xs.length ≤ (xs.flatMap stmt).length :=
  ⟨fun x hx => Nat.le_trans (h x hx).1 (fuelOf_mono (Nat.le_trans (length_le_flatMap stmt xs x hx) hlen)),
    count_le_flatMap stmt xs fun x hx => (h x hx).2⟩

structure WfAuth (dateP : List Char → Option Nat) (src : Source) : Prop where
  noscopes : src.scopes = []
  facts : ∀ f ∈ src.facts, wfPred dateP f = true
  rules : ∀ r ∈ src.rules, WfRule dateP r
  checks : ∀ c ∈ src.checks, WfCheck dateP c
  policies : ∀ c ∈ src.policies, WfPolicy dateP c

theorem stmts_fuel {dateP} (src : Source) (text : List Char)
    (hlen : (factsC src.facts).length + (rulesC src.rules).length + (checksC src.checks).length + (policiesC src.policies).length ≤
      text.length) (hw : WfAuth dateP src) :
    WfAuthorizer dateP (fuelOf text) src ∧
      src.facts.length + src.rules.length + src.checks.length + src.policies.length + 1 ≤ text.length + 2 := by
  have sF := section_fuel (fun f => predC f ++ [';', '\n']) (fun f => needL f.terms + 2) src.facts text
    (Nat.le_trans (Nat.le_add_right_of_le (Nat.le_add_right_of_le (Nat.le_add_right _ _))) hlen)
    fun f hf => ⟨fact_need f (hw.facts f hf) _, stmt_nonempty _ _ _⟩
  have sR := section_fuel ruleStmtC (fun r => needVs r.1.terms + needBody r.2) src.rules text
    (Nat.le_trans (Nat.le_add_right_of_le (Nat.le_add_right_of_le (Nat.le_add_left _ _))) hlen)
    fun r hr => ⟨rule_need r.1 r.2 (hw.rules r hr).head (hw.rules r hr).body _, stmt_nonempty _ _ _⟩
  have sC := section_fuel checkStmtC (fun c => needBodies c.2) src.checks text
    (Nat.le_trans (Nat.le_add_right_of_le (Nat.le_add_left _ _)) hlen)
    fun c hc => kw_fuel ckindC checkStmtC (fun _ _ _ => rfl) c (hw.checks c hc).nonempty (hw.checks c hc).bodies
  have sP := section_fuel policyStmtC (fun c => needBodies c.2) src.policies text (Nat.le_trans (Nat.le_add_left _ _) hlen)
    fun c hc => kw_fuel pkindC policyStmtC (fun _ _ _ => rfl) c (hw.policies c hc).nonempty (hw.policies c hc).bodies
  exact ⟨⟨hw.noscopes, fun f hf => ⟨hw.facts f hf, sF.1 f hf⟩, fun r hr => ⟨hw.rules r hr, sR.1 r hr⟩,
    fun c hc => ⟨hw.checks c hc, sC.1 c hc⟩, fun c hc => ⟨hw.policies c hc, sP.1 c hc⟩⟩,
    Nat.add_le_add (Nat.le_trans (Nat.add_le_add (Nat.add_le_add (Nat.add_le_add sF.2 sR.2) sC.2) sP.2) hlen) (by decide)⟩

/-! ## blocks -/

/-- a block of the grammar (no fuel in sight) -/
structure WfBlock (dateP : List Char → Option Nat) (src : Source) : Prop where
  scopes : ∀ sc ∈ src.scopes, wfScope sc
  facts : ∀ f ∈ src.facts, wfPred dateP f = true
  rules : ∀ r ∈ src.rules, WfRule dateP r
  checks : ∀ c ∈ src.checks, WfCheck dateP c
  nopolicies : src.policies = []

theorem header_len (scs : List SScope) : scs.length ≤ (headerC scs).length := by
  cases scs with
  | nil => exact Nat.le_refl 0
  | cons s scs =>
    simp only [headerC, List.length_cons, List.length_append]
    exact scopes_mid _ _ _ (scopes_len_tail scs) (by decide)

theorem blockC_len (src : Source) : (blockC src).length = (headerC src.scopes).length + ((factsC src.facts).length +
    (rulesC src.rules).length + (checksC src.checks).length) := by
  rw [blockC, List.length_append, List.length_append, List.length_append, List.append_nil, Nat.add_assoc]

/-- **C14, blocks, with the driver's fuel.** `parse_block_source`'s model, as the driver runs it,
    returns every printed block of the grammar. -/
theorem parseBlockSource_round_trip {dateP} (hd : DateShape dateP) (src : Source) (hw : WfBlock dateP src) :
    parseBlockSource dateP (blockC src) = some src := by
  have hlen := blockC_len src
  -- the statements of a block are those of an authorizer without policies
  obtain ⟨h, hn⟩ := stmts_fuel { src with scopes := [] } (blockC src) (by rw [hw.nopolicies, hlen]; exact Nat.le_add_left _ _)
    ⟨rfl, hw.facts, hw.rules, hw.checks, fun c hc => (List.ne_nil_of_mem hc hw.nopolicies).elim⟩
  rw [hw.nopolicies] at hn
  refine block_round_trip hd _ _ src ⟨hw.scopes, ?_, h.facts, h.rules, h.checks, hw.nopolicies⟩ hn
  -- one unit of fuel for each scope, which has at least one character in the `trusting` line
  exact Nat.add_le_add (Nat.le_trans (header_len src.scopes)
    (Nat.le_trans (hlen ▸ Nat.le_add_right _ _) (Nat.le_mul_of_pos_left _ (by decide)))) (by decide)

/-! ## authorizers -/

theorem sourceC_len (src : Source) : (factsC src.facts).length + (rulesC src.rules).length + (checksC src.checks).length +
    (policiesC src.policies).length ≤ (sourceC src).length := by
  simp only [sourceC, List.length_append, List.length_nil]
  -- section by section; the blank lines only add
  rw [Nat.add_assoc, Nat.add_assoc]
  exact Nat.add_le_add_left (Nat.le_trans (Nat.add_le_add_left (Nat.le_trans (Nat.add_le_add_left (Nat.le_add_left _ _) _)
    (Nat.le_add_left _ _)) _) (Nat.le_add_left _ _)) _

/-- **C14, authorizers, with the driver's fuel.** `parse_source`'s model, as the driver runs it,
    returns every `dump_code` text of the grammar. -/
theorem parseSource_round_trip {dateP} (hd : DateShape dateP) (src : Source) (hw : WfAuth dateP src) :
    parseSource dateP (sourceC src) = some src := by
  obtain ⟨h, hn⟩ := stmts_fuel src (sourceC src) (sourceC_len src) hw
  exact source_round_trip hd _ _ src h hn

/-! ## single items, with the driver's fuel -/

/-- **C14, rules, with the driver's fuel** (`fuelOf` of the whole input, tail included) -/
theorem rule_round_trip {dateP} (hd : DateShape dateP) (head : SPred) (b : Body) (X : List Char)
    (hwh : wfPredAny dateP head = true) (hw : WfBody dateP b) (hv : validVars head b = true) (hX : BodyEnd X) :
    pRuleInner dateP (fuelOf (predC head ++ ' ' :: '<' :: '-' :: ' ' :: (bodyC b ++ X)))
      (predC head ++ ' ' :: '<' :: '-' :: ' ' :: (bodyC b ++ X)) = .ok (head, b) X :=
  rule_rt hd head b _ X hwh hw hv hX (rule_need head b hwh hw X)

/-- **C14, checks, with the driver's fuel** -/
theorem check_round_trip {dateP} (hd : DateShape dateP) (k : CKind) (b : Body) (bs : List Body) (X : List Char)
    (hw : ∀ y ∈ b :: bs, WfBody dateP y) (hX : ItemEnd X) :
    pCheckInner dateP (fuelOf (ckindC k ++ ' ' :: (bodyC b ++ (tailBodiesC bs ++ X))))
      (ckindC k ++ ' ' :: (bodyC b ++ (tailBodiesC bs ++ X))) = .ok (k, b :: bs) X :=
  check_rt hd k b bs _ X hw hX (kw_need (ckindC k) b bs hw X)

/-- **C14, policies, with the driver's fuel** -/
theorem policy_round_trip {dateP} (hd : DateShape dateP) (k : PKind) (b : Body) (bs : List Body) (X : List Char)
    (hw : ∀ y ∈ b :: bs, WfBody dateP y) (hX : ItemEnd X) :
    pPolicyInner dateP (fuelOf (pkindC k ++ ' ' :: (bodyC b ++ (tailBodiesC bs ++ X))))
      (pkindC k ++ ' ' :: (bodyC b ++ (tailBodiesC bs ++ X))) = .ok (k, b :: bs) X :=
  policy_rt hd k b bs _ X hw hX (kw_need (pkindC k) b bs hw X)

/-! ## non-vacuity -/

example : parseBlockSource (fun _ => none) (blockC exSource) = some exSource :=
  parseBlockSource_round_trip dateShape_none exSource
    ⟨exSource_wf.scopes, fun f hf => (exSource_wf.facts f hf).1, fun r hr => (exSource_wf.rules r hr).1,
     fun c hc => (exSource_wf.checks c hc).1, rfl⟩

example : parseSource (fun _ => none) (sourceC exAuthorizer) = some exAuthorizer :=
  parseSource_round_trip dateShape_none exAuthorizer
    ⟨rfl, fun f hf => (exAuthorizer_wf.facts f hf).1, fun r hr => (exAuthorizer_wf.rules r hr).1,
     fun c hc => (exAuthorizer_wf.checks c hc).1, fun c hc => (exAuthorizer_wf.policies c hc).1⟩

end Biscuit.BlockParser
