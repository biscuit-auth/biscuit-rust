/-
  The engine model in the form the proofs use it: membership in an origin, in the join (monotone in
  the facts it ranges over), in what the result collector returns and in the fact store; then three
  facts about the fixpoint loop, each one induction over `runLoop`, from which C05 and C10 read off
  what they say about `run`.
-/
import BiscuitModel.Model.Datalog
import BiscuitModel.Lemmas.List
namespace Biscuit

abbrev OFact := List Nat × Fact

theorem mem_origin_insert {x b : Nat} {o : List Nat} : x ∈ Origin.insert b o ↔ x = b ∨ x ∈ o := by
  induction o with
  | nil => exact List.mem_singleton.trans ⟨.inl, (·.resolve_right List.not_mem_nil)⟩
  | cons y ys ih =>
    unfold Origin.insert
    by_cases h1 : b < y
    · rw [if_pos h1]
      exact List.mem_cons
    · rw [if_neg h1]
      by_cases h2 : b = y
      · rw [if_pos h2]
        exact h2 ▸ ⟨.inr, fun h => h.elim (· ▸ List.mem_cons_self) id⟩
      · rw [if_neg h2, List.mem_cons, ih, List.mem_cons]
        exact or_left_comm

theorem mem_origin_union {x : Nat} (b a : List Nat) : x ∈ Origin.union a b ↔ x ∈ a ∨ x ∈ b :=
  mem_foldl_insert (fun _ _ _ => mem_origin_insert.trans or_comm) b a

theorem of_mem_combine_cons {F : List OFact} {p : Predicate} {rest : List Predicate} {m : MV} {y : List Nat × Bindings}
    (h : y ∈ combine F (p :: rest) m) :
    ∃ of ∈ F, matchPreds p of.2 = true ∧ ∃ m', bindTerms m p.terms of.2.terms = some m' ∧
      ∃ ob ∈ combine F rest m', (Origin.union ob.1 of.1, ob.2) = y := by
  obtain ⟨of, hof, h⟩ := List.mem_flatMap.1 h
  by_cases hm : matchPreds p of.2 = true
  · rw [if_pos hm] at h
    cases hb : bindTerms m p.terms of.2.terms with
    | none => rw [hb] at h; cases h
    | some m' => rw [hb] at h; exact ⟨of, hof, hm, m', hb, List.mem_map.1 h⟩
  · rw [if_neg hm] at h; cases h

theorem combine_mono {F F' : List OFact} (h : ∀ x ∈ F, x ∈ F') {ps : List Predicate} {m : MV} {y : List Nat × Bindings}
    (hy : y ∈ combine F ps m) : y ∈ combine F' ps m := by
  induction ps generalizing m y with
  | nil => exact hy
  | cons p rest ih =>
    obtain ⟨of, hof, hm, m', hb, ob, hob, rfl⟩ := of_mem_combine_cons hy
    refine List.mem_flatMap.2 ⟨of, h of hof, ?_⟩
    rw [if_pos hm, hb]
    exact List.mem_map.2 ⟨ob, ih hob, rfl⟩

theorem applyBinding_error (syms : SymbolTable) (blk : Nat) (r : Rule) (ob : List Nat × Bindings) (e : ExprErr) :
    applyBinding syms blk r ob = .error e ↔ evalExprs r.exprs ob.2 (TempSyms.new syms) = .error e := by
  unfold applyBinding
  cases evalExprs r.exprs ob.2 (TempSyms.new syms) with
  | error e' => exact ⟨fun h => Except.error.inj h ▸ rfl, fun h => Except.error.inj h ▸ rfl⟩
  | ok b =>
    cases b with
    | false => exact ⟨nofun, nofun⟩
    | true => cases instTerms ob.2 r.head.terms <;> exact ⟨nofun, nofun⟩

theorem applyBinding_some {syms : SymbolTable} {blk : Nat} {r : Rule} {ob : List Nat × Bindings} {y : OFact}
    (h : applyBinding syms blk r ob = .ok (some y)) :
    ∃ ts, instTerms ob.2 r.head.terms = some ts ∧ y = (Origin.insert blk ob.1, ⟨r.head.name, ts⟩) := by
  unfold applyBinding at h
  split at h
  · cases h
  · cases h
  · split at h
    · next ts hts => cases h; exact ⟨ts, hts, rfl⟩
    · cases h

theorem applyRule_mono {F F' : List OFact} (h : ∀ x ∈ F, x ∈ F') {syms : SymbolTable} {blk : Nat} {r : Rule}
    {y : Except ExprErr (Option OFact)} (hy : y ∈ applyRule syms F blk r) : y ∈ applyRule syms F' blk r := by
  obtain ⟨ob, hob, rfl⟩ := List.mem_map.1 hy
  exact List.mem_map.2 ⟨ob, combine_mono h hob, rfl⟩

theorem visible_mono {F F' : List OFact} (t : List Nat) (h : ∀ x ∈ F, x ∈ F') :
    ∀ x ∈ visible t F, x ∈ visible t F' :=
  fun x hx => List.mem_filter.2 ⟨h x (List.mem_filter.1 hx).1, (List.mem_filter.1 hx).2⟩

theorem visible_idem (t : List Nat) (F : List OFact) : visible t (visible t F) = visible t F := by
  simp [visible, List.filter_filter]

theorem mem_stepResults {syms : SymbolTable} {rules : List SRule} {facts : List OFact}
    {y : Except ExprErr (Option OFact)} :
    y ∈ stepResults syms rules facts ↔
      ∃ sr ∈ rules, y ∈ applyRule syms (visible sr.trusted facts) sr.blk sr.rule := by
  simp [stepResults, List.mem_flatMap]

theorem collect_ok {rs : List (Except ExprErr (Option OFact))} {new : List OFact} (h : collect rs = .ok new) :
    (∀ e, .error e ∉ rs) ∧ ∀ y, y ∈ new ↔ .ok (some y) ∈ rs := by
  fun_induction collect rs generalizing new with
  | case1 => cases h; simp
  | case2 => cases h
  | case3 rest ih => simpa using ih h
  | case4 z rest ih =>
    cases hc : collect rest with
    | error e => simp [hc, Except.map] at h
    | ok l =>
      simp only [hc, Except.map, Except.ok.injEq] at h
      subst h
      simp [ih hc]

theorem collect_ok_no_error : ∀ (rs : List (Except ExprErr (Option OFact))) (new : List OFact),
    collect rs = .ok new → ∀ e, .error e ∉ rs :=
  fun _ _ h => (collect_ok h).1

theorem collect_error_mem : ∀ (rs : List (Except ExprErr (Option OFact))) (e : ExprErr),
    collect rs = .error e → .error e ∈ rs := by
  intro rs e h
  fun_induction collect rs with
  | case1 => cases h
  | case2 e' => cases h; simp
  | case3 rest ih => simp [ih h]
  | case4 z rest ih =>
    cases hc : collect rest with
    | error e' => simp only [hc, Except.map, Except.error.injEq] at h; subst h; simp [ih hc]
    | ok l => simp [hc, Except.map] at h

theorem mem_factInsert {x y : OFact} {fs : List OFact} : x ∈ factInsert y fs ↔ x ∈ fs ∨ x = y :=
  mem_snoc_unless_contains

theorem mem_factMerge {x : OFact} (new fs : List OFact) : x ∈ factMerge fs new ↔ x ∈ fs ∨ x ∈ new :=
  mem_foldl_insert (fun _ _ _ => mem_factInsert) new fs

theorem factMerge_prefix : ∀ (new fs : List OFact), ∃ l, factMerge fs new = fs ++ l := by
  intro new
  induction new with
  | nil => intro fs; exact ⟨[], (List.append_nil fs).symm⟩
  | cons y rest ih =>
    intro fs
    obtain ⟨l, hl⟩ := ih (factInsert y fs)
    rw [factMerge, List.foldl_cons, ← factMerge, hl]
    unfold factInsert
    split
    · exact ⟨l, rfl⟩
    · exact ⟨y :: l, List.append_assoc ..⟩

theorem factMerge_same_length (new fs : List OFact) (h : (factMerge fs new).length = fs.length) :
    factMerge fs new = fs := by
  obtain ⟨l, hl⟩ := factMerge_prefix new fs
  rw [hl] at h ⊢
  simp only [List.length_append, Nat.add_eq_left, List.length_eq_zero_iff] at h
  rw [h, List.append_nil]

/-! ### the fixpoint loop

Of the cases of `runLoop`'s induction principle, `case4` is the fixpoint reached within the budget and
`case8` the pass after which the loop goes on; every other case ends in an error. -/

def Closed (syms : SymbolTable) (rules : List SRule) (F : List OFact) : Prop :=
  ∀ sr ∈ rules, ∀ y, .ok (some y) ∈ applyRule syms (visible sr.trusted F) sr.blk sr.rule → y ∈ F

section Loop
variable {syms : SymbolTable} {rules : List SRule} {lim : Limits} {fuel index : Nat} {F : List OFact}

theorem runLoop_inv (Inv : List OFact → Prop)
    (hpass : ∀ F new, Inv F → collect (stepResults syms rules F) = .ok new → Inv (factMerge F new))
    (h : Inv F) : Inv (runLoop syms rules lim fuel index F).facts := by
  fun_induction runLoop syms rules lim fuel index F with
  | case1 | case2 => exact h
  | case8 _ _ _ _ hnew _ _ _ _ _ _ ih => exact ih (hpass _ _ h hnew)
  | _ _ _ _ _ hnew => exact hpass _ _ h hnew

/-- `index`: the productive iterations counted on entry -/
theorem runLoop_ok (hok : (runLoop syms rules lim fuel index F).result = .ok ()) :
    Closed syms rules (runLoop syms rules lim fuel index F).facts ∧
    (runLoop syms rules lim fuel index F).facts.length < lim.maxFacts ∧
    ((runLoop syms rules lim fuel index F).iterations = index ∨
      index < (runLoop syms rules lim fuel index F).iterations ∧
      (runLoop syms rules lim fuel index F).iterations < lim.maxIterations) := by
  fun_induction runLoop syms rules lim fuel index F with
  | case4 _ index F new hnew facts' hlen hmf =>
    -- the pass added nothing: whatever a rule produces is in `new`, hence already in `F`
    have hsame : facts' = F := factMerge_same_length new F hlen
    refine ⟨fun sr hsr y hy => ?_, (hsame ▸ Nat.lt_of_not_le hmf : facts'.length < _), .inl rfl⟩
    rw [show (RunOut.mk facts' index (.ok ())).facts = F from hsame] at hy
    exact (mem_factMerge new F).mpr (.inr (((collect_ok hnew).2 y).mpr (mem_stepResults.mpr ⟨sr, hsr, hy⟩)))
  | case8 _ _ _ _ _ _ _ _ hmax _ _ ih =>
    obtain ⟨hc, hf, hi⟩ := ih hok
    exact ⟨hc, hf, .inr (hi.elim (fun e => ⟨Nat.lt_of_lt_of_eq (Nat.lt_succ_self _) e.symm, Nat.lt_of_le_of_lt (Nat.le_of_eq e) (Nat.lt_of_not_le hmax)⟩)
      fun h => ⟨Nat.lt_of_succ_lt h.1, h.2⟩)⟩
  | _ => cases hok

/-- the model's recursion budget never runs out: the loop ends by itself -/
theorem runLoop_fuel (h : lim.maxIterations < fuel + index) (h' : index ≤ lim.maxIterations) :
    (runLoop syms rules lim fuel index F).result ≠ .error .outOfFuel := by
  fun_induction runLoop syms rules lim fuel index F with
  | case1 => exact absurd (Nat.lt_of_lt_of_le h (Nat.le_of_eq (Nat.zero_add _))) (Nat.not_lt.2 h')
  | case8 _ _ _ _ _ _ _ _ hmax _ _ ih =>
    exact ih (Nat.lt_of_lt_of_le h (Nat.le_of_eq (Nat.succ_add_eq_add_succ ..))) (Nat.le_of_lt (Nat.lt_of_not_le hmax))
  | _ => simp

end Loop

end Biscuit
