/-
  Facts about lists that are not about the model: membership in the result of a loop that only
  adds to its accumulator (the shape of `Origin.union`, `factMerge`, `from_scopes`, `dedup`), lists
  with the same members, lists without duplicates.
-/
namespace Biscuit

theorem mem_foldl_of_step {α β : Type} {f : List β → α → List β} {G : α → β → Prop}
    (hf : ∀ acc a x, x ∈ f acc a ↔ x ∈ acc ∨ G a x) {x : β} (l : List α) (acc : List β) :
    x ∈ l.foldl f acc ↔ x ∈ acc ∨ ∃ a ∈ l, G a x := by
  induction l generalizing acc with
  | nil => simp
  | cons a rest ih => simp only [List.foldl_cons, ih, hf, or_assoc, List.mem_cons, exists_eq_or_imp]

theorem mem_foldl_insert {α : Type} {f : List α → α → List α} (hf : ∀ acc a x, x ∈ f acc a ↔ x ∈ acc ∨ x = a) {x : α}
    (l acc : List α) : x ∈ l.foldl f acc ↔ x ∈ acc ∨ x ∈ l :=
  (mem_foldl_of_step hf l acc).trans (or_congr_right exists_eq_right')

theorem mem_snoc_unless_contains {α : Type} [BEq α] [LawfulBEq α] {l : List α} {a x : α} :
    x ∈ (if l.contains a then l else l ++ [a]) ↔ x ∈ l ∨ x = a := by
  split
  · next h => exact ⟨.inl, fun h' => h'.elim id fun e => e ▸ List.contains_iff_mem.1 h⟩
  · rw [List.mem_append, List.mem_singleton]

/-- what `∃ a ∈ l, G a x` of `mem_foldl_of_step` comes to when `G` names the element -/
theorem exists_mem_eq {α : Type} {l : List α} {c : α} {P : Prop} : (∃ a, a ∈ l ∧ a = c ∧ P) ↔ c ∈ l ∧ P :=
  ⟨fun ⟨_, h, e, p⟩ => ⟨e ▸ h, p⟩, fun ⟨h, p⟩ => ⟨c, h, rfl, p⟩⟩

theorem any_congr_mem {α : Type} {l l' : List α} (p : α → Bool) (h : ∀ x, x ∈ l ↔ x ∈ l') :
    l.any p = l'.any p := by
  rw [Bool.eq_iff_iff]
  simp only [List.any_eq_true, h]

theorem all_congr_mem {α : Type} {l l' : List α} (p : α → Bool) (h : ∀ x, x ∈ l ↔ x ∈ l') :
    l.all p = l'.all p := by
  rw [Bool.eq_iff_iff]
  simp only [List.all_eq_true, h]

theorem isEmpty_congr_mem {α : Type} {l l' : List α} (h : ∀ x, x ∈ l ↔ x ∈ l') :
    l.isEmpty = l'.isEmpty := by
  rw [Bool.eq_iff_iff]
  simp only [List.isEmpty_iff, List.eq_nil_iff_forall_not_mem, h]

theorem nodup_middle {α : Type} {l r : List α} {a : α} : (l ++ a :: r).Nodup ↔ a ∉ l ++ r ∧ (l ++ r).Nodup :=
  List.perm_middle.nodup_iff.trans List.nodup_cons

theorem nodup_snoc {α : Type} {l : List α} {a : α} : (l ++ [a]).Nodup ↔ a ∉ l ∧ l.Nodup := by
  rw [nodup_middle, List.append_nil]

/-- the shape of `restoreSymbols`, `restoreKeys` (C13) and of the key check of `reloadTables`
    (C12); `mk` embeds the list in the state of the loop -/
theorem foldl_snoc_fresh {σ α : Type} {f : σ → α → σ} (mk : List α → σ) (l acc : List α)
    (step : ∀ acc, ∀ a ∈ l, a ∉ acc → f (mk acc) a = mk (acc ++ [a])) (hn : (acc ++ l).Nodup) :
    l.foldl f (mk acc) = mk (acc ++ l) := by
  induction l generalizing acc with
  | nil => rw [List.foldl_nil, List.append_nil]
  | cons a l ih =>
    have ha : a ∉ acc := fun h => (nodup_middle.1 hn).1 (List.mem_append_left _ h)
    rw [List.append_cons] at hn ⊢
    rw [List.foldl_cons, step acc a List.mem_cons_self ha, ih _ (fun acc x hx => step acc x (List.mem_cons_of_mem _ hx)) hn]

end Biscuit
