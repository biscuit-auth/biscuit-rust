/-
  Lemmas about the expression parser model (Model/ExprParser), for Props/C14Expr and the rule bodies of C14Rules: the
  operands (`wfV`, `pTermAny_rt`), the printed form of a tree (`showC`, `lev`, `openE`), the operator tables, and what every
  level does on a leading blank, on a character no operand starts with (`NoStart`) and where an expression ends (`Stops`).
-/
import BiscuitModel.Model.ExprParser
import BiscuitModel.Props.C14Terms
namespace Biscuit.ExprParser
open Biscuit.Printer Biscuit.TermParser

/-! ## terms as operands -/

/-- the values an expression may contain: what `term_in_fact` derives, and variables -/
def wfV (dateP : List Char → Option Nat) : STerm → Bool
  | .var n => validNameL n.toList
  | t => wfT dateP .fact t

/-- what the text after an operand must satisfy (see `EndsFor`); for a variable: the name ends -/
def EndsForV (t : STerm) (X : List Char) : Prop :=
  match t with
  | .var _ => ∀ c, X.head? = some c → isNameChar c = false
  | t => EndsFor t X

theorem wfV_of_wfT {dateP} (t : STerm) (h : wfT dateP .fact t = true) : wfV dateP t = true := by
  cases t with
  | var n => cases h
  | _ => exact h

theorem _root_.Biscuit.TermParser.Ends.endsForV {X : List Char} (h : Ends X) (t : STerm) : EndsForV t X := by
  cases t with
  | var n => exact fun c hc => (h c hc).2.1
  | _ => dsimp only [EndsForV]; exact h.endsFor _

theorem EndsForV.endsFor {t : STerm} {X : List Char} (h : EndsForV t X) : EndsFor t X := by
  cases t with
  | var n => trivial
  | _ => exact h

theorem wfV_cases {dateP} {t : STerm} (h : wfV dateP t = true) :
    (∃ n, t = .var n ∧ validNameL n.toList = true) ∨ wfT dateP .fact t = true := by
  cases t with
  | var n => exact .inl ⟨n, rfl, h⟩
  | _ => exact .inr h

theorem pVariable_none_head {c : Char} (s : List Char) (h : c ≠ '$') : pVariable (c :: s) = none := by
  simp [pVariable, h]

theorem pAtomAny_eq_pAtom {dateP} (s : List Char) (h : pVariable s = none) : pAtomAny dateP s = pAtom dateP s := by
  rw [pAtomAny, h]; rfl

theorem pTermAny_eq_pTerm {dateP} (fuel : Nat) (s : List Char) (h : pVariable (space0 s) = none) :
    pTermAny dateP fuel s = pTerm dateP .fact fuel s := by
  cases fuel with
  | zero => rfl
  | succ n => rw [pTermAny, pAtomAny_eq_pAtom _ h]; rfl

theorem termC_head_of_wfV {dateP} (t : STerm) (h : wfV dateP t = true) :
    ∃ c tl, termC t = c :: tl ∧ isSpace c = false ∧ c ≠ '!' ∧ c ≠ '(' := by
  rcases wfV_cases h with ⟨n, rfl, _⟩ | hw
  · exact ⟨'$', n.toList, rfl, by decide⟩
  · obtain ⟨c, tl, hs, hc⟩ := termC_start .fact t hw
    obtain ⟨hsp, _, _, hn, hp, _⟩ := termStart_facts hc
    exact ⟨c, tl, hs, hsp, hn, hp⟩

/-- **a printed value is read back by `term`**, whatever follows it (subject to `EndsForV`) -/
theorem pTermAny_rt {dateP} (hd : DateShape dateP) (t : STerm) (X : List Char) (fuel : Nat)
    (hw : wfV dateP t = true) (hX : EndsForV t X) (hf : needT t + 1 ≤ fuel) :
    pTermAny dateP fuel (termC t ++ X) = .ok t X := by
  rcases wfV_cases hw with ⟨n, rfl, hn⟩ | hw'
  · obtain ⟨m, rfl⟩ := fuel_pos hf
    have hv : pVariable ('$' :: (n.toList ++ X)) = some (.var n, X) := by
      simp only [pVariable, pName_rt _ X hn hX, Option.map_some, String.ofList_toList]
    simp only [termC, List.cons_append, pTermAny, space0_cons _ (show isSpace '$' = false by decide), pAtomAny,
      pParameter, pBraced_none_head _ (show '$' ≠ '{' by decide), pStringT,
      parseString_none_head _ (show '$' ≠ '"' by decide),
      pDate_none_head hd _ (show Char.isDigit '$' = false by decide), hv, Option.map_none, alt_none, alt_some]
  · -- not a variable: `term` and `term_in_fact` try the same alternatives
    obtain ⟨c, tl, hs, hc⟩ := termC_start .fact t hw'
    obtain ⟨hsp, _, _, _, _, hv⟩ := termStart_facts hc
    have hnv : pVariable (space0 (termC t ++ X)) = none := by
      rw [hs, List.cons_append, space0_cons _ hsp]
      exact pVariable_none_head _ hv
    rw [pTermAny_eq_pTerm _ _ hnv]
    exact term_rt hd t .fact fuel X hw' hX.endsFor (Nat.le_of_succ_le hf)

/-! ## the printed form of a tree, character by character -/

/-- level and printed symbol of the infix operators the parser knows (`&&!` / `||!`, the strict
    forms, are printed but not parsed: they are not in the grammar) -/
def infixOf : Bin → Option (Nat × List Char)
  | .lazyOr => some (0, ['|', '|'])
  | .lazyAnd => some (1, ['&', '&'])
  | .le => some (2, ['<', '='])
  | .ge => some (2, ['>', '='])
  | .lt => some (2, ['<'])
  | .gt => some (2, ['>'])
  | .eq => some (2, ['=', '=', '='])
  | .ne => some (2, ['!', '=', '='])
  | .heq => some (2, ['=', '='])
  | .hne => some (2, ['!', '='])
  | .bxor => some (3, ['^'])
  | .bor => some (4, ['|'])
  | .band => some (5, ['&'])
  | .add => some (6, ['+'])
  | .sub => some (6, ['-'])
  | .mul => some (7, ['*'])
  | .div => some (7, ['/'])
  | _ => none

/-- name of a binary method, as printed -/
def methodC : Bin → Option (List Char)
  | .contains => some "contains".toList
  | .prefix => some "starts_with".toList
  | .suffix => some "ends_with".toList
  | .regex => some "matches".toList
  | .intersection => some "intersection".toList
  | .union => some "union".toList
  | .all => some "all".toList
  | .any => some "any".toList
  | .get => some "get".toList
  | .ffi n => some ("extern::".toList ++ n.toList)
  | _ => none

def showC : ETree → List Char
  | .val t => termC t
  | .un .negate a => '!' :: showC a
  | .un .parens a => '(' :: (showC a ++ [')'])
  | .un .length a => showC a ++ ".length()".toList
  | .un .typeOf a => showC a ++ ".type()".toList
  | .un (.ffi n) a => showC a ++ (".extern::".toList ++ (n.toList ++ "()".toList))
  | .bin b l r =>
    match infixOf b with
    | some (_, sym) => showC l ++ (' ' :: (sym ++ (' ' :: showC r)))
    | none =>
      match methodC b with
      | some m => showC l ++ ('.' :: (m ++ ('(' :: (showC r ++ [')']))))
      | none => showC l ++ (" ? ".toList ++ showC r)
  | .clo ps body =>
    match ps with
    | [] => showC body
    | p :: _ => '$' :: (p.toList ++ (" -> ".toList ++ showC body))

/-- the grammar level a tree belongs to -/
def lev : ETree → Nat
  | .bin b _ _ => match infixOf b with | some (j, _) => j | none => 9
  | .un .negate _ => 8
  | _ => 9

/-- the printed text ends inside the operand of a `!`, which reads on through `* / + -` -/
def openE : ETree → Bool
  | .un .negate _ => true
  | .bin b _ r => match infixOf b with | some _ => openE r | none => false
  | .clo _ body => openE body
  | _ => false

/-! ## the operator tables

  `infixOf` is the table `opsAt` read the other way (`infix_mem`).  What the proofs need of the symbols is then a fact
  about a table of seventeen entries, checked by evaluation on `sym ++ [' ']` and carried to `sym ++ ' ' :: r` by
  `firstTag_sentinel`: no symbol contains a blank, so no tag looks past it. -/

deriving instance DecidableEq for Bin

def opStart (c : Char) : Bool :=
  c == '|' || c == '&' || c == '<' || c == '>' || c == '=' || c == '!' || c == '^' || c == '+' || c == '-' || c == '*' || c == '/'

theorem tag_sentinel (c : Char) (r t s : List Char) (h : c ∉ t) : tag t (s ++ c :: r) = (tag t (s ++ [c])).map (· ++ r) := by
  induction t generalizing s with
  | nil => simp [tag]
  | cons a t ih =>
    cases s with
    | nil =>
      have : a ≠ c := fun e => h (e ▸ List.mem_cons_self)
      simp [tag_cons, this]
    | cons b s =>
      simp only [List.cons_append, tag_cons]
      split
      · exact ih s fun hc => h (List.mem_cons_of_mem _ hc)
      · rfl

theorem firstTag_sentinel {α : Type} (c : Char) (s r : List Char) (l : List (List Char × α)) (h : ∀ q ∈ l, c ∉ q.1) :
    firstTag l (s ++ c :: r) = (firstTag l (s ++ [c])).map fun x => (x.1, x.2 ++ r) := by
  induction l with
  | nil => rfl
  | cons p l ih =>
    simp only [firstTag, tag_sentinel c r p.1 s (h p List.mem_cons_self)]
    cases tag p.1 (s ++ [c]) with
    | some x => rfl
    | none => exact ih fun q hq => h q (List.mem_cons_of_mem _ hq)

theorem firstTag_none {α : Type} (l : List (List Char × α)) (s : List Char) (h : ∀ p ∈ l, tag p.1 s = none) :
    firstTag l s = none := by
  induction l with
  | nil => rfl
  | cons p rest ih =>
    obtain ⟨t, v⟩ := p
    have h1 : tag t s = none := h (t, v) List.mem_cons_self
    simp only [firstTag, h1]
    exact ih (fun q hq => h q (List.mem_cons_of_mem _ hq))

theorem infix_mem {b : Bin} {j : Nat} {sym : List Char} (h : infixOf b = some (j, sym)) : j < 8 ∧ (sym, b) ∈ opsAt j := by
  cases b <;> cases h <;> decide

theorem ops_blank : ∀ j < 8, ∀ q ∈ opsAt j, ' ' ∉ q.1 := by decide +kernel

theorem ops_self : ∀ j < 8, ∀ p ∈ opsAt j, firstTag (opsAt j) (p.1 ++ [' ']) = some (p.2, [' ']) := by decide +kernel

/-- what a level finds on the symbol of a lower one is `|` of `||` or `&` of `&&` -/
theorem ops_lower : ∀ j < 8, ∀ j' < j, ∀ p ∈ opsAt j', ∀ x ∈ firstTag (opsAt j) (p.1 ++ [' ']),
    x.2 = ['|', ' '] ∨ x.2 = ['&', ' '] := by decide +kernel

theorem ops_lower_cmp : ∀ j' < 2, ∀ p ∈ opsAt j', firstTag (opsAt 2) (p.1 ++ [' ']) = none := by decide +kernel

theorem ops_start : ∀ j < 8, ∀ p ∈ opsAt j, p.1.head?.map opStart = some true := by decide +kernel

theorem opsAt_start (j : Nat) (hj : j < 8) (p : List Char × Bin) (hp : p ∈ opsAt j) : ∃ c tl, p.1 = c :: tl ∧ opStart c = true := by
  have := ops_start j hj p hp
  cases h : p.1 with
  | nil => rw [h] at this; cases this
  | cons c tl => rw [h] at this; exact ⟨c, tl, rfl, by simpa using this⟩

theorem firstTag_ops_none (j : Nat) (hj : j < 8) {s : List Char} (h : ∀ c, s.head? = some c → opStart c = false) :
    firstTag (opsAt j) s = none := by
  apply firstTag_none
  intro p hp
  obtain ⟨c0, tl, hc, ho⟩ := opsAt_start j hj p hp
  rw [hc]
  cases s with
  | nil => rfl
  | cons c r => exact tag_none_head _ _ (ne_of_test ho (h c rfl))

theorem firstTag_infix (b : Bin) (j : Nat) (sym r : List Char) (h : infixOf b = some (j, sym)) :
    firstTag (opsAt j) (sym ++ ' ' :: r) = some (b, ' ' :: r) := by
  obtain ⟨hj, hm⟩ := infix_mem h
  rw [firstTag_sentinel ' ' sym r _ (ops_blank j hj), ops_self j hj _ hm]
  rfl

/-! ## leading blanks -/

theorem pTermAny_blank {dateP} (fuel : Nat) (s : List Char) : pTermAny dateP fuel (' ' :: s) = pTermAny dateP fuel s := by
  cases fuel with
  | zero => rfl
  | succ n => rw [pTermAny, pTermAny, space0_blank]

theorem blank_all {dateP} : ∀ fuel : Nat,
    (∀ k s, pLevel dateP k fuel (' ' :: s) = pLevel dateP k fuel s) ∧
    (∀ s, pExpr8 dateP fuel (' ' :: s) = pExpr8 dateP fuel s) ∧
    (∀ s, pExpr9 dateP fuel (' ' :: s) = pExpr9 dateP fuel s) ∧
    (∀ s, pExprTerm dateP fuel (' ' :: s) = pExprTerm dateP fuel s) ∧
    (∀ s, pParen dateP fuel (' ' :: s) = pParen dateP fuel s) := by
  intro fuel
  induction fuel with
  | zero => exact ⟨fun _ _ => rfl, fun _ => rfl, fun _ => rfl, fun _ => rfl, fun _ => rfl⟩
  | succ n ih =>
    obtain ⟨ihL, ih8, ih9, ihT, ihP⟩ := ih
    refine ⟨?_, ?_, ?_, ?_, ?_⟩
    · intro k s
      rw [pLevel, pLevel, ihL, ih8]
    · intro s
      rw [pExpr8, pExpr8, space0_blank, ih9]
    · intro s
      rw [pExpr9, pExpr9, ihT]
    · intro s
      rw [pExprTerm, pExprTerm, ihP, pTermAny_blank]
    · intro s
      rw [pParen, pParen, space0_blank]

theorem pLevel_blank {dateP} (k fuel : Nat) (s : List Char) : pLevel dateP k fuel (' ' :: s) = pLevel dateP k fuel s :=
  (blank_all fuel).1 k s

/-! ## what cannot start an operand -/

/-- characters no operand starts with: operator characters other than `!` and `-`, separators,
    closing brackets -/
def NoStart (c : Char) : Prop :=
  c = '|' ∨ c = '&' ∨ c = '<' ∨ c = '>' ∨ c = '=' ∨ c = '^' ∨ c = '+' ∨ c = '*' ∨ c = '/' ∨ c = ')' ∨ c = ',' ∨ c = ';'

theorem noStart_facts {c : Char} (h : NoStart c) :
    isSpace c = false ∧ TermStart c = false ∧ c ≠ '$' ∧ c ≠ '(' ∧ c ≠ '!' := by
  have t : ∀ c ∈ ['|', '&', '<', '>', '=', '^', '+', '*', '/', ')', ',', ';'],
      isSpace c = false ∧ TermStart c = false ∧ c ≠ '$' ∧ c ≠ '(' ∧ c ≠ '!' := by decide +kernel
  exact t c (by simp only [List.mem_cons, List.not_mem_nil, or_false]; exact h)

theorem pParen_err_head {dateP} (n : Nat) {c : Char} (s : List Char) (hsp : isSpace c = false) (hp : c ≠ '(') :
    pParen dateP (n + 1) (c :: s) = .err := by
  simp [pParen, space0_cons s hsp, hp]

theorem pExpr8_step {dateP} (n : Nat) {c : Char} {s tl : List Char} (hs : s = c :: tl) (hsp : isSpace c = false) (hc : c ≠ '!') :
    pExpr8 dateP (n + 1) s = pExpr9 dateP n s := by
  subst hs
  have hne := ne_cons_of_head (s := c :: tl) fun e => hc (Option.some.inj e)
  simp only [pExpr8, space0_cons _ hsp]

theorem pExpr8_err_head {dateP} (hd : DateShape dateP) (n : Nat) {c : Char} (s : List Char) (h : NoStart c) :
    pExpr8 dateP (n + 5) (c :: s) = .err := by
  obtain ⟨hsp, hst, hv, hp, hn⟩ := noStart_facts h
  have hterm : pTermAny dateP (n + 2) (c :: s) = .err := by
    rw [pTermAny_eq_pTerm _ _ (by rw [space0_cons s hsp]; exact pVariable_none_head s hv)]
    exact pTerm_err_head hd .fact n s hsp hst
  rw [pExpr8_step _ rfl hsp hn]
  simp only [pExpr9, pExprTerm, pParen_err_head (n + 1) s hsp hp, hterm]

/-- on such a character every level returns `Error` (never `Failure`): an operator loop that
    tried an operator by mistake (`|` of `||`, `&` of `&&`) backs off -/
theorem pLevel_err_head {dateP} (hd : DateShape dateP) {c : Char} (s : List Char) (h : NoStart c) :
    ∀ (d k n : Nat), k + d = 8 → pLevel dateP k (n + 6 + d) (c :: s) = .err := by
  intro d
  induction d with
  | zero =>
    intro k n hk
    have : k = 8 := hk
    subst this
    simp only [pLevel, Nat.le_refl, ↓reduceIte, pExpr8_err_head hd n s h]
  | succ d ih =>
    intro k n hk
    have hk8 : ¬ k ≥ 8 := Nat.not_le.mpr (Nat.lt_of_lt_of_le (Nat.lt_add_of_pos_right (Nat.succ_pos d)) (Nat.le_of_eq hk))
    show pLevel dateP k ((n + 6 + d) + 1) (c :: s) = .err
    simp only [pLevel, hk8, ↓reduceIte, ih (k + 1) n ((Nat.add_right_comm k 1 d).trans hk)]

theorem pLevel_err_head' {dateP} (hd : DateShape dateP) {c : Char} (s : List Char) (h : NoStart c) (k fuel : Nat)
    (hk : k ≤ 8) (hf : 14 ≤ fuel) : pLevel dateP k fuel (c :: s) = .err := by
  obtain ⟨n, rfl⟩ := Nat.exists_eq_add_of_le' (Nat.le_trans (Nat.add_le_add_left (Nat.sub_le 8 k) 6) hf)
  rw [← Nat.add_assoc]
  exact pLevel_err_head hd s h (8 - k) k n (Nat.add_sub_cancel' hk)

/-! ## where an expression ends -/

/-- what stands directly after an expression: nothing, or a blank, `)`, `,`, `;` -/
def EEnd (X : List Char) : Prop := ∀ c, X.head? = some c → c = ' ' ∨ c = ')' ∨ c = ',' ∨ c = ';'

theorem EEnd.ends {X : List Char} (h : EEnd X) : Ends X := by
  intro c hc
  rcases h c hc with e | e | e | e <;> subst e <;> decide

theorem EEnd.no_dot {X : List Char} (h : EEnd X) : X.head? ≠ some '.' := by
  intro hc
  rcases h '.' hc with e | e | e | e <;> exact absurd e (by decide)

/-- what follows a complete level-`k` expression: directly, what `EEnd` allows; then, after blanks, nothing, or a
    character no operator starts with, or the printed form (symbol and blank) of an operator of a level below `k` -/
def Stops (k : Nat) (X : List Char) : Prop :=
  EEnd X ∧
  (space0 X = [] ∨ (∃ c r, space0 X = c :: r ∧ opStart c = false) ∨
    (∃ b j sym r, infixOf b = some (j, sym) ∧ j < k ∧ space0 X = sym ++ ' ' :: r))

theorem Stops.mono {k k' : Nat} {X : List Char} (h : Stops k X) (hk : k ≤ k') : Stops k' X := by
  obtain ⟨h1, h2⟩ := h
  refine ⟨h1, ?_⟩
  rcases h2 with h | h | ⟨b, j, sym, r, hb, hj, hs⟩
  · exact .inl h
  · exact .inr (.inl h)
  · exact .inr (.inr ⟨b, j, sym, r, hb, Nat.lt_of_lt_of_le hj hk, hs⟩)

theorem stops_punct {c : Char} (h : c = ')' ∨ c = ',' ∨ c = ';') (k : Nat) (Z : List Char) : Stops k (c :: Z) := by
  have hc : isSpace c = false ∧ opStart c = false := by rcases h with rfl | rfl | rfl <;> decide
  exact ⟨forall_head_cons (.inr h), .inr (.inl ⟨c, Z, space0_cons _ hc.1, hc.2⟩)⟩

/-- what a loop (or the comparison level) finds where the expression is over: no operator of its own, or one by
    mistake (`|` of `||`, `&` of `&&`) and then what is left cannot start an operand -/
theorem stops_firstTag {k : Nat} {X : List Char} (h : Stops k X) (j : Nat) (hj : j < 8) (hk : k ≤ j) :
    firstTag (opsAt j) (space0 X) = none ∨
      j ≠ 2 ∧ ∃ op c r', firstTag (opsAt j) (space0 X) = some (op, c :: r') ∧ NoStart c := by
  rcases h.2 with h2 | ⟨c, r, h2, hc⟩ | ⟨b, j', sym, r, hb, hlt, h2⟩
  · left; rw [h2]; exact firstTag_ops_none j hj fun _ h => nomatch h
  · left; rw [h2]; exact firstTag_ops_none j hj (forall_head_cons hc)
  · have hm := (infix_mem hb).2
    have hlt := Nat.lt_of_lt_of_le hlt hk
    rw [h2, firstTag_sentinel ' ' sym r _ (ops_blank j hj)]
    cases hf : firstTag (opsAt j) (sym ++ [' ']) with
    | none => left; rfl
    | some x =>
      have hj2 : j ≠ 2 := fun e => by subst e; rw [ops_lower_cmp j' hlt _ hm] at hf; cases hf
      refine .inr ⟨hj2, x.1, ?_⟩
      rcases ops_lower j hj j' hlt _ hm x hf with hx | hx <;> simp only [Option.map_some, hx]
      · exact ⟨'|', ' ' :: r, rfl, .inl rfl⟩
      · exact ⟨'&', ' ' :: r, rfl, .inr (.inl rfl)⟩

/-- the levels that are loops: all but the comparisons -/
def LoopLevel (k : Nat) : Prop := k = 0 ∨ k = 1 ∨ k = 3 ∨ k = 4 ∨ k = 5 ∨ k = 6 ∨ k = 7

theorem loopLevel_iff {k : Nat} : LoopLevel k ↔ k < 8 ∧ k ≠ 2 := by
  refine ⟨?_, fun h => ?_⟩
  · rintro (rfl | rfl | rfl | rfl | rfl | rfl | rfl) <;> decide
  · have : ∀ k < 8, k ≠ 2 → LoopLevel k := by unfold LoopLevel; decide
    exact this k h.1 h.2

/-- **a loop stops where the expression is over** -/
theorem stop_loop {dateP} (hd : DateShape dateP) {k : Nat} {X : List Char} (h : Stops k X) (j : Nat)
    (hj : LoopLevel j) (hk : k ≤ j) (fuel : Nat) (hf : 15 ≤ fuel) (e : ETree) :
    pLoop dateP j fuel e X = .ok e X := by
  obtain ⟨n, rfl⟩ := fuel_pos hf
  have hj8 := (loopLevel_iff.mp hj).1
  rcases stops_firstTag h j hj8 hk with h0 | ⟨_, op, c, r', h0, hc⟩
  · simp only [pLoop, h0]
  · simp only [pLoop, h0, pLevel_err_head' hd r' hc (j + 1) n hj8 (Nat.le_of_succ_le_succ hf)]

theorem stop_cmp {k : Nat} {X : List Char} (h : Stops k X) (hk : k ≤ 2) : firstTag (opsAt 2) (space0 X) = none :=
  (stops_firstTag h 2 (by decide) hk).resolve_right fun h => h.1 rfl

theorem stop_methods {dateP} (n : Nat) (e : ETree) (X : List Char) (h : X.head? ≠ some '.') :
    pMethods dateP (n + 1) e X = .ok e X := by
  have h := ne_cons_of_head h
  simp only [pMethods]

end Biscuit.ExprParser
