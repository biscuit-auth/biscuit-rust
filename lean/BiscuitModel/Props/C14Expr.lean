/-
  C14 — the expression parser inverts the printer.

  `expr_round_trip`: for every expression tree of the grammar (`wfE`: operands of an infix
  operator at the levels the grammar gives them, left-nested chains, explicit `Parens` nodes
  wherever the levels require them, method calls on level-9 receivers, closures of `.all` /
  `.any`, the right operand of `&&` / `||` as a parameterless closure) the model of
  `biscuit_parser::parser::expr`, run on the printed tree followed by any text that does not
  continue the expression, returns exactly that tree and leaves exactly that text.

  The trees are taken rule by rule (`Gram`, the inductive view of `wfE`).  For each rule the proof says in which state
  the printed tree leaves the parser (`Final`, `Star`, `MStar`).  `Good e` is all three at every level at which `e`
  can stand, and `good_of_gram` is the induction.
-/
import BiscuitModel.Lemmas.ExprParser
namespace Biscuit.ExprParser
open Biscuit.Printer Biscuit.TermParser

/-! ## the trees of the grammar -/

def isTokenLit : STerm → Bool
  | .int _ => true
  | .date _ => true
  | _ => false

/-- may be followed by `.method(`: everything of level 9 except a bare integer or date, whose
    token would run on into the method name -/
def recvOK : ETree → Bool
  | .val t => !isTokenLit t
  | .un .negate _ => false
  | .un _ _ => true
  | .bin b _ _ => (infixOf b).isNone
  | .clo _ _ => false

def isLazy : Bin → Bool
  | .lazyAnd => true
  | .lazyOr => true
  | _ => false

def wfE (dateP : List Char → Option Nat) : ETree → Bool
  | .val t => wfV dateP t
  | .un .negate a => wfE dateP a && decide (6 ≤ lev a)
  | .un .parens a => wfE dateP a
  | .un .length a => wfE dateP a && decide (lev a = 9) && recvOK a
  | .un .typeOf a => wfE dateP a && decide (lev a = 9) && recvOK a
  | .un (.ffi n) a => wfE dateP a && decide (lev a = 9) && recvOK a && validNameL n.toList
  | .bin b l r =>
    match infixOf b with
    | some (j, _) =>
      if isLazy b then
        match r with
        | .clo [] body => wfE dateP l && wfE dateP body && decide (j ≤ lev l) && decide (j + 1 ≤ lev body)
        | _ => false
      else if j = 2 then wfE dateP l && wfE dateP r && decide (3 ≤ lev l) && decide (3 ≤ lev r)
      else wfE dateP l && wfE dateP r && decide (j ≤ lev l) && decide (j + 1 ≤ lev r) && (decide (j < 6) || !openE l)
    | none =>
      match methodC b with
      | none => false
      | some _ =>
        wfE dateP l && decide (lev l = 9) && recvOK l && (match b with | .ffi n => validNameL n.toList | _ => true) &&
          (if isClosureOp b then
            match r with
            | .clo [p] body => validNameL p.toList && wfE dateP body
            | _ => false
          else wfE dateP r)
  | .clo _ _ => false

/-- number of operators of level `k` on the left spine -/
def sp (k : Nat) : ETree → Nat
  | .bin b l _ => match infixOf b with | some (j, _) => if j = k then sp k l + 1 else 0 | none => 0
  | _ => 0

def unName : Un → Option (List Char)
  | .length => some "length".toList
  | .typeOf => some "type".toList
  | .ffi n => some ("extern::".toList ++ n.toList)
  | _ => none

/-- number of method calls chained on the receiver -/
def msp : ETree → Nat
  | .un u a => if (unName u).isSome then msp a + 1 else 0
  | .bin b l _ => if (infixOf b).isNone then msp l + 1 else 0
  | _ => 0

def needE : ETree → Nat
  | .val t => needT t + 40
  | .un _ a => needE a + 40
  | .bin _ l r => needE l + needE r + 40
  | .clo _ body => needE body + 40

/-! ## the spine of a chain: as many steps of a loop, each paid for by a node -/

theorem spine_le {s s' a b : Nat} (hs : s' ≤ s + 1) (ha : s + 40 ≤ a) (hb : a + 40 ≤ b) : s' + 40 ≤ b := by
  omega

theorem sp_le (k : Nat) : ∀ e : ETree, sp k e + 40 ≤ needE e := by
  intro e
  induction e with
  | bin b l r ihl _ =>
    refine spine_le ?_ ihl (Nat.add_le_add_right (Nat.le_add_right _ _) 40)
    simp only [sp]
    repeat' split
    all_goals simp
  | _ => exact Nat.le_add_left _ _

theorem msp_le : ∀ e : ETree, msp e + 40 ≤ needE e := by
  intro e
  induction e with
  | un u a ih => exact spine_le (by simp only [msp]; split <;> simp) ih (Nat.le_refl _)
  | bin b l r ihl _ =>
    exact spine_le (by simp only [msp]; split <;> simp) ihl (Nat.add_le_add_right (Nat.le_add_right _ _) 40)
  | _ => exact Nat.le_add_left _ _

theorem sp_zero_of_lev {k : Nat} {e : ETree} (h : k < lev e) : sp k e = 0 := by
  cases e with
  | bin b l r =>
    simp only [sp, lev] at h ⊢
    cases hb : infixOf b with
    | none => rfl
    | some p =>
      rw [hb] at h
      simp only [Nat.ne_of_gt h, ↓reduceIte]
  | _ => rfl

/-! ## the grammar as rules -/

/-- `wfE`, rule by rule: the three unary methods are one rule (`call`); `&&`/`||`, the comparisons and the other infix
    operators are one rule (`infix`, on the tree `foldOne` builds from the operand the parser reads) -/
inductive Gram (dateP : List Char → Option Nat) : ETree → Prop
  | val {t} (h : wfV dateP t = true) : Gram dateP (.val t)
  | negate {a} (ha : Gram dateP a) (hl : 6 ≤ lev a) : Gram dateP (.un .negate a)
  | parens {a} (ha : Gram dateP a) : Gram dateP (.un .parens a)
  | call {u a m} (hu : unName u = some m) (hv : ∀ n, u = .ffi n → validNameL n.toList = true) (ha : Gram dateP a)
      (hl : lev a = 9) (hr : recvOK a = true) : Gram dateP (.un u a)
  | infix {b j sym l rhs} (hb : infixOf b = some (j, sym)) (hl : Gram dateP l) (hr : Gram dateP rhs)
      (hll : (if j = 2 then 3 else j) ≤ lev l) (hlr : j + 1 ≤ lev rhs) (ho : j < 6 ∨ openE l = false) :
      Gram dateP (foldOne l b rhs)
  | method {b m l r} (hb : infixOf b = none) (hm : methodC b = some m) (hv : ∀ n, b = .ffi n → validNameL n.toList = true)
      (hc : isClosureOp b = false) (hl : Gram dateP l) (hll : lev l = 9) (hrl : recvOK l = true) (hr : Gram dateP r) :
      Gram dateP (.bin b l r)
  | closure {b m l p body} (hb : infixOf b = none) (hm : methodC b = some m) (hc : isClosureOp b = true)
      (hp : validNameL p.toList = true) (hl : Gram dateP l) (hll : lev l = 9) (hrl : recvOK l = true)
      (hr : Gram dateP body) : Gram dateP (.bin b l (.clo [p] body))

theorem foldOne_eq (l r : ETree) (b : Bin) : foldOne l b r = .bin b l (if isLazy b then .clo [] r else r) := by
  cases b <;> rfl

theorem ops_lazy : ∀ j < 8, ∀ p ∈ opsAt j, isLazy p.2 = decide (j ≤ 1) := by decide

theorem infix_level {b : Bin} {j : Nat} {sym : List Char} (h : infixOf b = some (j, sym)) :
    j ≤ 7 ∧ (isLazy b = true ↔ j ≤ 1) := by
  obtain ⟨hj, hm⟩ := infix_mem h
  exact ⟨Nat.le_of_lt_succ hj, by rw [ops_lazy j hj _ hm]; exact decide_eq_true_iff⟩

/-- by the recursion of `wfE` itself: it hands over the body of a closure as an induction hypothesis, which induction on
    the tree does not (`wfE` of a closure node is `false`).  The cases are the arms of `wfE` in its order: a value, `!`,
    `( )`, the three unary methods (4 to 6), `&&` / `||` (7), the comparisons (9), the other infix operators (10), the
    methods (12); 8, 11 and 13 are the arms that return `false` -/
theorem Gram.of_wfE {dateP} (e : ETree) : wfE dateP e = true → Gram dateP e := by
  fun_induction wfE dateP e with
  | case1 t => exact .val
  | case2 a ih =>
    intro hw; simp only [Bool.and_eq_true, decide_eq_true_eq] at hw
    exact .negate (ih hw.1) hw.2
  | case3 a ih => exact fun hw => .parens (ih hw)
  | case4 a ih | case5 a ih =>
    intro hw; simp only [Bool.and_eq_true, decide_eq_true_eq] at hw
    exact .call rfl (fun _ h => nomatch h) (ih hw.1.1) hw.1.2 hw.2
  | case6 n a ih =>
    intro hw; simp only [Bool.and_eq_true, decide_eq_true_eq] at hw
    exact .call rfl (fun _ h => by cases h; exact hw.2) (ih hw.1.1.1) hw.1.1.2 hw.1.2
  | case7 b l j sym hb hz body ihl ihb =>
    intro hw; simp only [Bool.and_eq_true, decide_eq_true_eq] at hw
    obtain ⟨⟨⟨hwl, hwb⟩, hll⟩, hlb⟩ := hw
    have hj1 : j ≤ 1 := (infix_level hb).2.mp hz
    have := Gram.infix hb (ihl hwl) (ihb hwb) (by rw [if_neg (Nat.ne_of_lt (Nat.lt_of_le_of_lt hj1 (by decide)))]; exact hll) hlb
      (.inl (Nat.lt_of_le_of_lt hj1 (by decide)))
    rwa [foldOne_eq, hz] at this
  | case9 b l r sym hz hb ihl ihr =>
    intro hw; simp only [Bool.and_eq_true, decide_eq_true_eq] at hw
    obtain ⟨⟨⟨hwl, hwr⟩, hll⟩, hlr⟩ := hw
    have := Gram.infix hb (ihl hwl) (ihr hwr) hll hlr (.inl (by decide))
    rwa [foldOne_eq, if_neg hz] at this
  | case10 b l r j sym hb hz hj2 ihl ihr =>
    intro hw; simp only [Bool.and_eq_true, decide_eq_true_eq, Bool.or_eq_true, Bool.not_eq_true'] at hw
    obtain ⟨⟨⟨⟨hwl, hwr⟩, hll⟩, hlr⟩, ho⟩ := hw
    have := Gram.infix hb (ihl hwl) (ihr hwr) (by rw [if_neg hj2]; exact hll) hlr ho
    rwa [foldOne_eq, if_neg hz] at this
  | case12 b l r hb m hm ihl ihb ihr =>
    intro hw; simp only [Bool.and_eq_true, decide_eq_true_eq] at hw
    obtain ⟨⟨⟨⟨hwl, h9⟩, hrl⟩, hv⟩, hr⟩ := hw
    have hv' : ∀ n, b = .ffi n → validNameL n.toList = true := fun n hn => by subst hn; exact hv
    cases hc : isClosureOp b with
    | false =>
      simp only [hc, Bool.false_eq_true, ↓reduceIte] at hr
      exact .method hb hm hv' hc (ihl hwl) h9 hrl (ihr hr)
    | true =>
      simp only [hc, ↓reduceIte] at hr
      split at hr
      · simp only [Bool.and_eq_true] at hr
        exact .closure hb hm hc hr.1 (ihl hwl) h9 hrl (ihb hr.2)
      · cases hr
  | case8 | case11 | case13 => exact fun hw => nomatch hw

section foldOne
variable {b : Bin} {j : Nat} {sym : List Char} (hb : infixOf b = some (j, sym)) (l rhs : ETree)
include hb

theorem showC_foldOne : showC (foldOne l b rhs) = showC l ++ ' ' :: (sym ++ ' ' :: showC rhs) := by
  rw [foldOne_eq]; split <;> simp only [showC, hb]

theorem showC_foldOne_append (X : List Char) :
    showC (foldOne l b rhs) ++ X = showC l ++ ' ' :: (sym ++ ' ' :: (showC rhs ++ X)) := by
  rw [showC_foldOne hb]; simp only [List.append_assoc, List.cons_append]

theorem lev_foldOne : lev (foldOne l b rhs) = j := by
  rw [foldOne_eq]; simp only [lev, hb]

theorem openE_foldOne : openE (foldOne l b rhs) = openE rhs := by
  rw [foldOne_eq]; split <;> simp only [openE, hb]

theorem sp_foldOne (k : Nat) : sp k (foldOne l b rhs) = if j = k then sp k l + 1 else 0 := by
  rw [foldOne_eq]; simp only [sp, hb]

omit hb in
theorem needE_foldOne : needE l + (needE rhs + 40) ≤ needE (foldOne l b rhs) ∧ needE (foldOne l b rhs) ≤ needE l + needE rhs + 80 := by
  rw [foldOne_eq]; split <;> simp only [needE] <;> omega

theorem infix_sym_head : ∃ c tl, sym = c :: tl ∧ opStart c = true :=
  opsAt_start j (infix_mem hb).1 _ (infix_mem hb).2

end foldOne

theorem opStart_facts {c : Char} (h : opStart c = true) : isSpace c = false ∧ isNameChar c = false ∧ c ≠ '(' := by
  have t : ∀ c ∈ ['|', '&', '<', '>', '=', '!', '^', '+', '-', '*', '/'], isSpace c = false ∧ isNameChar c = false ∧ c ≠ '(' := by
    decide +kernel
  simp only [opStart, Bool.or_eq_true, beq_iff_eq, or_assoc] at h
  exact t c (by simp only [List.mem_cons, List.not_mem_nil, or_false]; exact h)

theorem space0_sym {b : Bin} {j : Nat} {sym : List Char} (hb : infixOf b = some (j, sym)) (Z : List Char) :
    space0 (sym ++ Z) = sym ++ Z := by
  obtain ⟨c, tl, hs, hc⟩ := infix_sym_head hb
  rw [hs]; exact space0_cons _ (opStart_facts hc).1

/-! ## the text of a method call -/

/-- the literal stands on the left of each equation: `rcases … with ⟨rfl, rfl⟩` then replaces `m` by it as it is (the
    other way round the substitution evaluates `"length".toList`, dearly) -/
theorem unName_cases {u : Un} {m : List Char} (hu : unName u = some m) : (u = .length ∧ "length".toList = m) ∨
    (u = .typeOf ∧ "type".toList = m) ∨ ∃ n, u = .ffi n ∧ "extern::".toList ++ n.toList = m := by
  cases u <;> simp only [unName, Option.some.injEq, reduceCtorEq] at hu
  · exact .inl ⟨rfl, hu⟩
  · exact .inr (.inl ⟨rfl, hu⟩)
  · exact .inr (.inr ⟨_, rfl, hu⟩)

theorem showC_call {u : Un} {m : List Char} (hu : unName u = some m) (a : ETree) :
    showC (.un u a) = showC a ++ '.' :: (m ++ ['(', ')']) := by
  rcases unName_cases hu with ⟨rfl, rfl⟩ | ⟨rfl, rfl⟩ | ⟨n, rfl, rfl⟩ <;>
    simp only [showC, String.reduceToList, List.cons_append, List.nil_append]

theorem showC_method {b : Bin} {m : List Char} (hb : infixOf b = none) (hm : methodC b = some m) (l r : ETree) :
    showC (.bin b l r) = showC l ++ '.' :: (m ++ '(' :: (showC r ++ [')'])) := by
  simp only [showC, hb, hm]

theorem showC_closure {b : Bin} {m : List Char} (hb : infixOf b = none) (hm : methodC b = some m) (l body : ETree) (p : String) :
    showC (.bin b l (.clo [p] body)) =
      showC l ++ '.' :: (m ++ '(' :: '$' :: (p.toList ++ ' ' :: '-' :: '>' :: ' ' :: (showC body ++ [')']))) := by
  rw [showC_method hb hm]; simp [showC]

/-! ## first character of a printed tree -/

theorem Gram.head {dateP} {e : ETree} (h : Gram dateP e) :
    ∃ c tl, showC e = c :: tl ∧ isSpace c = false ∧ (lev e = 9 → c ≠ '!') := by
  have sub : ∀ {a e : ETree} {T : List Char}, showC e = showC a ++ T → (lev e = 9 → lev a = 9) →
      (∃ c tl, showC a = c :: tl ∧ isSpace c = false ∧ (lev a = 9 → c ≠ '!')) →
      ∃ c tl, showC e = c :: tl ∧ isSpace c = false ∧ (lev e = 9 → c ≠ '!') := by
    rintro a e T hs hl ⟨c, tl, ha, hsp, hn⟩
    exact ⟨c, tl ++ T, by rw [hs, ha]; rfl, hsp, fun h => hn (hl h)⟩
  induction h with
  | val h =>
    obtain ⟨c, tl, hs, hsp, hn, _⟩ := termC_head_of_wfV _ h
    exact ⟨c, tl, hs, hsp, fun _ => hn⟩
  | negate => exact ⟨'!', _, rfl, by decide, fun h => absurd h (show 8 ≠ 9 by decide)⟩
  | parens => exact ⟨'(', _, rfl, by decide, fun _ => by decide⟩
  | call hu _ _ hl _ ih => exact sub (showC_call hu _) (fun _ => hl) ih
  | «infix» hb _ _ _ _ _ ih =>
    exact sub (showC_foldOne hb _ _) (fun h9 => absurd ((lev_foldOne hb _ _).symm.trans h9 ▸ (infix_level hb).1) (by decide)) ih
  | method hb hm _ _ _ hll _ _ ih => exact sub (showC_method hb hm _ _) (fun _ => hll) ih
  | closure hb hm _ _ _ hll _ _ ih => exact sub (showC_closure hb hm _ _ _) (fun _ => hll) ih

theorem Gram.space0 {dateP} {e : ETree} (h : Gram dateP e) (Z : List Char) : space0 (showC e ++ Z) = showC e ++ Z := by
  obtain ⟨c, tl, hs, hsp, _⟩ := h.head
  rw [hs]; exact space0_cons _ hsp

/-! ## one step of a level, case by case -/

theorem pLevel_step_loop {dateP} {k n : Nat} {s r : List Char} {e : ETree} (hk : LoopLevel k)
    (h : pLevel dateP (k + 1) n s = .ok e r) : pLevel dateP k (n + 1) s = pLoop dateP k n e r := by
  obtain ⟨h8, h2⟩ := loopLevel_iff.mp hk
  simp only [pLevel, ge_iff_le, Nat.not_le.mpr h8, ↓reduceIte, h, h2]

theorem pLevel_step_cmp_none {dateP} {n : Nat} {s r : List Char} {e : ETree}
    (h : pLevel dateP 3 n s = .ok e r) (h0 : firstTag (opsAt 2) (space0 r) = none) :
    pLevel dateP 2 (n + 1) s = .ok e r := by
  simp only [pLevel, ge_iff_le, Nat.reduceLeDiff, ↓reduceIte, h, h0]

theorem pLevel_step_cmp_some {dateP} {n : Nat} {s r r1 r2 : List Char} {e e2 : ETree} {op : Bin}
    (h : pLevel dateP 3 n s = .ok e r) (h0 : firstTag (opsAt 2) (space0 r) = some (op, r1))
    (h1 : pLevel dateP 3 n r1 = .ok e2 r2) : pLevel dateP 2 (n + 1) s = .ok (.bin op e e2) r2 := by
  simp only [pLevel, ge_iff_le, Nat.reduceLeDiff, ↓reduceIte, h, h0, h1]

theorem pLevel_step_top {dateP} {k : Nat} (n : Nat) (s : List Char) (hk : 8 ≤ k) : pLevel dateP k (n + 1) s = pExpr8 dateP n s := by
  simp only [pLevel, show k ≥ 8 from hk, ↓reduceIte]

theorem pLoop_step {dateP} {k n : Nat} {acc e : ETree} {s r1 r2 : List Char} {op : Bin}
    (h0 : firstTag (opsAt k) (space0 s) = some (op, r1)) (h1 : pLevel dateP (k + 1) n r1 = .ok e r2) :
    pLoop dateP k (n + 1) acc s = pLoop dateP k n (foldOne acc op e) r2 := by
  simp only [pLoop, h0, h1]

/-! ## the three invariants -/

/-- `e`, printed and followed by text that ends a level-`k` expression, is read back at level `k` -/
def Final (dateP : List Char → Option Nat) (k : Nat) (e : ETree) : Prop :=
  ∀ (X : List Char) (fuel : Nat), Stops k X → (openE e = true → Stops 6 X) → needE e + 40 ≤ fuel + 2 * k →
    pLevel dateP k fuel (showC e ++ X) = .ok e X

/-- `e`, printed and followed by text that ends a level-`k+1` expression (an operator of level
    `k` may follow), brings the loop of level `k` to the state "read `e`, `X` left" -/
def Star (dateP : List Char → Option Nat) (k : Nat) (e : ETree) : Prop :=
  ∀ (X : List Char) (n : Nat), Stops (k + 1) X → (openE e = true → Stops 6 X) → needE e + 40 ≤ n + 1 + 2 * k →
    pLevel dateP k (n + 1) (showC e ++ X) = pLoop dateP k (n - sp k e) e X

/-- what may follow a level-9 expression: the end of the expression, or a method call -/
def DotOrEnd (e : ETree) (Y : List Char) : Prop := EEnd Y ∨ (∃ r, Y = '.' :: r ∧ recvOK e = true)

/-- a level-9 expression, printed, brings the method loop to the state "read `e`, `Y` left" -/
def MStar (dateP : List Char → Option Nat) (e : ETree) : Prop :=
  ∀ (Y : List Char) (n : Nat), DotOrEnd e Y → needE e + 10 ≤ n →
    pExpr9 dateP (n + 1) (showC e ++ Y) = pMethods dateP (n - msp e) e Y

/-! ## fuel

  A node of a tree adds 40 to `needE`, and a parser spends far less on it: the fuel hypotheses of `Final`, `Star`
  and `MStar` are passed from a tree to its subtrees by the facts below. -/

theorem fuel_split {A fuel k : Nat} (c : Nat) (hf : A + 40 ≤ fuel + 2 * k) (hk : k ≤ 8) (hc : c ≤ 24) : ∃ n, fuel = n + c :=
  ⟨fuel - c, by omega⟩

theorem fuel_ten {A n k : Nat} (c : Nat) (hf : A + 40 ≤ n + c + 2 * k) (hk : k ≤ 8) (hc : c ≤ 14) : A + 10 ≤ n := by
  omega

theorem fuel_child {A B n k : Nat} (c k' : Nat) (hf : A + 40 ≤ n + c + 2 * k) (hk : k ≤ 8) (hc : c ≤ 14) (hAB : B + 40 ≤ A) :
    B + 40 ≤ n + 2 * k' :=
  Nat.le_trans hAB (Nat.le_trans (Nat.le_of_add_right_le (fuel_ten c hf hk hc)) (Nat.le_add_right n _))

theorem fuel_up {A n k : Nat} (hf : A + 40 ≤ n + 1 + 2 * k) : A + 40 ≤ n + 2 * (k + 1) := by
  omega

/-- what a loop has left after a spine of `s` steps: 40 and the need `R` of what is still to be read -/
theorem fuel_rest {s A R n : Nat} (hs : s + 40 ≤ A) (hn : A + R + 10 ≤ n) : ∃ m, n - s = m + 40 ∧ R ≤ m :=
  ⟨n - s - 40, by omega⟩

/-! ## from one level to the next -/

theorem star_to_final {dateP} (hd : DateShape dateP) {k : Nat} {e : ETree} (hk : LoopLevel k) (h : Star dateP k e) :
    Final dateP k e := by
  intro X fuel hX ho hf
  have hk8 := Nat.le_of_lt (loopLevel_iff.mp hk).1
  obtain ⟨n, rfl⟩ := fuel_split 1 hf hk8 (by decide)
  obtain ⟨m, hm, _⟩ := fuel_rest (R := 0) (sp_le k e) (fuel_ten 1 hf hk8 (by decide))
  rw [h X n (hX.mono (Nat.le_succ k)) ho hf, hm]
  exact stop_loop hd hX k hk (Nat.le_refl _) _ (Nat.le_trans (by decide) (Nat.le_add_left 40 m)) e

theorem final_to_star {dateP} {k : Nat} {e : ETree} (hk : LoopLevel k) (hsp : sp k e = 0) (h : Final dateP (k + 1) e) :
    Star dateP k e := by
  intro X n hX ho hf
  rw [pLevel_step_loop hk (h X n hX ho (fuel_up hf)), hsp, Nat.sub_zero]

theorem final3_to_final2 {dateP} {e : ETree} (h : Final dateP 3 e) : Final dateP 2 e := by
  intro X fuel hX ho hf
  obtain ⟨n, rfl⟩ := fuel_split 1 hf (by decide) (by decide)
  exact pLevel_step_cmp_none (h X n (hX.mono (by decide)) ho (fuel_up hf)) (stop_cmp hX (Nat.le_refl _))

/-- everything below the level at which a tree is first read follows from that level -/
theorem final_down {dateP} (hd : DateShape dateP) (e : ETree) :
    ∀ (d T : Nat), T ≤ 8 → T ≤ lev e → Final dateP T e → ∀ k, k + d = T → Final dateP k e ∧ (LoopLevel k → k < T → Star dateP k e) := by
  intro d
  induction d with
  | zero =>
    intro T hT hTl hF k hk
    subst hk
    exact ⟨hF, fun _ h => absurd h (Nat.lt_irrefl _)⟩
  | succ d ih =>
    intro T hT hTl hF k hk
    have hF1 : Final dateP (k + 1) e := (ih T hT hTl hF (k + 1) ((Nat.add_right_comm k 1 d).trans hk)).1
    have hkT : k < T := hk ▸ Nat.lt_add_of_pos_right (Nat.succ_pos d)
    by_cases h2 : k = 2
    · subst h2
      exact ⟨final3_to_final2 hF1, fun hl _ => absurd rfl (loopLevel_iff.mp hl).2⟩
    · have hl : LoopLevel k := loopLevel_iff.mpr ⟨Nat.lt_of_lt_of_le hkT hT, h2⟩
      have hs := final_to_star hl (sp_zero_of_lev (Nat.lt_of_lt_of_le hkT hTl)) hF1
      exact ⟨star_to_final hd hl hs, fun _ _ => hs⟩

/-! ## level 9: values, parentheses, method calls -/

theorem endsForV_of_dotOrEnd {t : STerm} {Y : List Char} (h : DotOrEnd (.val t) Y) : EndsForV t Y := by
  rcases h with h | ⟨r, rfl, hr⟩
  · exact h.ends.endsForV t
  · -- a dot follows: it ends a name and hex digits, and `recvOK` rules out the integer and the date
    have hdot : ∀ c, ('.' :: r).head? = some c → isNameChar c = false ∧ isHexTok c = false := fun c hc => by cases hc; decide
    cases t with
    | var n => exact fun c hc => (hdot c hc).1
    | bytes b => exact fun c hc => (hdot c hc).2
    | int i | date d => cases hr
    | _ => trivial

theorem mstar_val {dateP} (hd : DateShape dateP) {t : STerm} (hw : wfV dateP t = true) : MStar dateP (.val t) := by
  intro Y n hY hn
  obtain ⟨m, rfl, hm⟩ := fuel_sub 2 (by decide) hn
  obtain ⟨c, tl, hs, hsp, _, hp⟩ := termC_head_of_wfV t hw
  have hpar : pParen dateP (m + 1) (termC t ++ Y) = .err := by
    rw [hs]; exact pParen_err_head m _ hsp hp
  have hterm := pTermAny_rt hd t Y (m + 1) hw (endsForV_of_dotOrEnd hY) (Nat.succ_le_succ (Nat.le_of_add_right_le hm))
  simp only [showC, pExpr9, pExprTerm, hpar, hterm, msp, Nat.sub_zero]

theorem final8_of_mstar {dateP} {e : ETree} (hw : Gram dateP e) (h9 : lev e = 9) (hm : MStar dateP e) :
    Final dateP 8 e := by
  intro X fuel hX ho hf
  obtain ⟨n, rfl⟩ := fuel_split 3 hf (Nat.le_refl _) (by decide)
  obtain ⟨c, tl, hs, hsp, hn⟩ := hw.head
  have h10 := fuel_ten 3 hf (Nat.le_refl _) (by decide)
  obtain ⟨k, hk, _⟩ := fuel_rest (R := 0) (msp_le e) h10
  rw [pLevel_step_top _ _ (Nat.le_refl 8), pExpr8_step _ (tl := tl ++ X) (by rw [hs]; rfl) hsp (hn h9),
    hm X n (.inl hX.1) h10, hk]
  exact stop_methods _ e X hX.1.no_dot

theorem final0_close {dateP} {a : ETree} (hF : Final dateP 0 a) (Y : List Char) (fuel : Nat) (hf : needE a + 40 ≤ fuel) :
    pLevel dateP 0 fuel (showC a ++ ')' :: Y) = .ok a (')' :: Y) :=
  hF (')' :: Y) fuel (stops_punct (.inl rfl) 0 Y) (fun _ => stops_punct (.inl rfl) 6 Y) hf

theorem mstar_parens {dateP} {a : ETree} (hw : Gram dateP a) (hF : Final dateP 0 a) :
    MStar dateP (.un .parens a) := by
  intro Y n hY hn
  obtain ⟨m, rfl, hm⟩ := fuel_sub 3 (by decide) hn
  simp only [showC, List.cons_append, List.append_assoc, List.nil_append, pExpr9, pExprTerm, pParen,
    space0_open, hw.space0, final0_close hF Y (m + 1) (Nat.le_succ_of_le hm),
    space0_close, msp, unName, Option.isSome_none, Bool.false_eq_true, ↓reduceIte, Nat.sub_zero]

/-! ## method names -/

theorem unNames_apart : (∀ Z, tag "length".toList ("type".toList ++ Z) = none) ∧
    (∀ Z, tag "length".toList ("extern::".toList ++ Z) = none) ∧ (∀ Z, tag "type".toList ("extern::".toList ++ Z) = none) ∧
    (∀ Z, tag "extern::".toList ("length".toList ++ Z) = none) ∧ (∀ Z, tag "extern::".toList ("type".toList ++ Z) = none) := by
  simp only [String.reduceToList]
  refine ⟨?_, ?_, ?_, ?_, ?_⟩ <;> exact fun _ => tag_none_head _ _ (by decide)

/-- no name in the table holds `(` or `:`, so of `s ++ '(' :: r` the table sees no more than `s ++ ['(']`
    (`firstTag_sentinel`) -/
theorem methods_table : (∀ q ∈ methodTags, '(' ∉ q.1) ∧ (∀ q ∈ methodTags, ':' ∉ q.1) ∧
    (∀ p ∈ methodTags, firstTag methodTags (p.1 ++ ['(']) = some (p.2, ['('])) ∧
    firstTag methodTags ("length".toList ++ ['(']) = none ∧ firstTag methodTags ("type".toList ++ ['(']) = none ∧
    firstTag methodTags ("extern".toList ++ [':']) = none := by
  simp only [methodTags, String.reduceToList]
  decide +kernel

theorem methods_other : (∀ Z, firstTag methodTags ("length".toList ++ '(' :: Z) = none) ∧
    (∀ Z, firstTag methodTags ("type".toList ++ '(' :: Z) = none) ∧ ∀ Z, firstTag methodTags ("extern::".toList ++ Z) = none := by
  obtain ⟨hp, hc, _, h1, h2, h3⟩ := methods_table
  refine ⟨fun Z => ?_, fun Z => ?_, fun Z => ?_⟩
  · rw [firstTag_sentinel '(' _ Z _ hp, h1]; rfl
  · rw [firstTag_sentinel '(' _ Z _ hp, h2]; rfl
  · have e : "extern::".toList ++ Z = "extern".toList ++ ':' :: (':' :: Z) := by
      simp only [String.reduceToList, List.cons_append, List.nil_append]
    rw [e, firstTag_sentinel ':' _ _ _ hc, h3]; rfl

theorem methodC_spec {b : Bin} {m : List Char} (h : methodC b = some m) : infixSym b = none ∧ (methodName b).toList = m ∧
    ((m, b) ∈ methodTags ∨ ∃ n, b = .ffi n ∧ "extern::".toList ++ n.toList = m) := by
  cases b <;> simp only [methodC, Option.some.injEq, reduceCtorEq] at h <;> subst h
  case ffi n => exact ⟨rfl, String.toList_append, .inr ⟨_, rfl, rfl⟩⟩
  all_goals exact ⟨rfl, rfl, .inl (by simp only [methodTags, List.mem_cons, true_or, or_true])⟩

theorem pBinMethodName_ffi {s r r' n : List Char} (h : firstTag methodTags s = none) (ht : tag "extern::".toList s = some r)
    (hp : pName r = some (n, r')) : pBinMethodName s = some (.ffi (String.ofList n), r') := by
  simp only [pBinMethodName, h, ht, hp, Option.map_some]

theorem pBinMethod_none {dateP} {k : Nat} {s : List Char} (h : firstTag methodTags s = none)
    (ht : tag "extern::".toList s = none) : pBinMethod dateP (k + 1) s = .err := by
  simp only [pBinMethod, pBinMethodName, h, ht]

theorem pBinMethod_arg_err {dateP} {k : Nat} {s r : List Char} {b : Bin} (h : pBinMethodName s = some (b, '(' :: r))
    (hc : isClosureOp b = false) (hl : pLevel dateP 0 k (space0 r) = .err) : pBinMethod dateP (k + 1) s = .err := by
  simp only [pBinMethod, h, hc, hl, Bool.false_eq_true, ↓reduceIte]

theorem pBinMethod_arg {dateP} {k : Nat} {s r r4 r5 : List Char} {b : Bin} {arg : ETree}
    (h : pBinMethodName s = some (b, '(' :: r)) (hc : isClosureOp b = false) (hl : pLevel dateP 0 k (space0 r) = .ok arg r4)
    (h4 : space0 r4 = ')' :: r5) : pBinMethod dateP (k + 1) s = .ok (b, none, arg) r5 := by
  simp only [pBinMethod, h, hc, hl, h4, Bool.false_eq_true, ↓reduceIte]

theorem pBinMethod_clo {dateP} {k : Nat} {s r r1 r2 r3 r4 r5 p : List Char} {b : Bin} {arg : ETree}
    (h : pBinMethodName s = some (b, '(' :: r)) (hc : isClosureOp b = true) (h1 : space0 r = '$' :: r1)
    (hp : pName r1 = some (p, r2)) (h3 : tag ['-', '>'] (space0 r2) = some r3) (hl : pLevel dateP 0 k (space0 r3) = .ok arg r4)
    (h4 : space0 r4 = ')' :: r5) : pBinMethod dateP (k + 1) s = .ok (b, some [String.ofList p], arg) r5 := by
  simp only [pBinMethod, h, hc, h1, hp, h3, hl, h4, ↓reduceIte]

theorem pBinMethodName_of {b : Bin} {m : List Char} (Z : List Char) (hm : methodC b = some m)
    (hffi : ∀ n, b = .ffi n → validNameL n.toList = true) : pBinMethodName (m ++ '(' :: Z) = some (b, '(' :: Z) := by
  rcases (methodC_spec hm).2.2 with hmem | ⟨n, rfl, rfl⟩
  · rw [pBinMethodName, firstTag_sentinel '(' m Z _ methods_table.1, methods_table.2.2.1 _ hmem]
    rfl
  · rw [List.append_assoc]
    have := pBinMethodName_ffi (methods_other.2.2 _) (tag_append _ _) (pName_rt n.toList ('(' :: Z) (hffi n rfl) (forall_head_cons (by decide)))
    rwa [String.ofList_toList] at this

theorem pUnMethod_call {u : Un} {m : List Char} (hu : unName u = some m) (hv : ∀ n, u = .ffi n → validNameL n.toList = true)
    (Y : List Char) : pUnMethod (m ++ '(' :: ')' :: Y) = some (u, Y) := by
  have hsp := space0_close Y
  obtain ⟨hlt, hle, hte, -, -⟩ := unNames_apart
  rcases unName_cases hu with ⟨rfl, rfl⟩ | ⟨rfl, rfl⟩ | ⟨n, rfl, rfl⟩
  · simp only [pUnMethod, tag_append, hsp]
  · simp only [pUnMethod, hlt, tag_append, hsp]
  · simp only [pUnMethod, List.append_assoc, hle, hte, tag_append,
      pName_rt n.toList ('(' :: ')' :: Y) (hv n rfl) (forall_head_cons (by decide)), Option.map_some, hsp, String.ofList_toList]

theorem pBinMethod_call {dateP} (hd : DateShape dateP) {u : Un} {m : List Char} (hu : unName u = some m)
    (hv : ∀ n, u = .ffi n → validNameL n.toList = true) (k : Nat) (hk : 14 ≤ k) (Y : List Char) :
    pBinMethod dateP (k + 1) (m ++ '(' :: ')' :: Y) = .err := by
  obtain ⟨-, -, -, hel, het⟩ := unNames_apart
  rcases unName_cases hu with ⟨rfl, rfl⟩ | ⟨rfl, rfl⟩ | ⟨n, rfl, rfl⟩
  · exact pBinMethod_none (methods_other.1 _) (hel _)
  · exact pBinMethod_none (methods_other.2.1 _) (het _)
  · refine pBinMethod_arg_err (pBinMethodName_of (b := .ffi n) (')' :: Y) rfl (fun _ h => by cases h; exact hv n rfl)) rfl ?_
    rw [space0_close]
    exact pLevel_err_head' hd Y (by simp only [NoStart, true_or, or_true]) 0 k (Nat.zero_le _) hk

/-! ## method calls -/

theorem pMethods_step_bin {dateP} {n : Nat} {acc arg : ETree} {r r' : List Char} {op : Bin} {ps : Option (List String)}
    (h : pBinMethod dateP n r = .ok (op, ps, arg) r') : pMethods dateP (n + 1) acc ('.' :: r) =
      pMethods dateP n (match ps with | some ps => .bin op acc (.clo ps arg) | none => .bin op acc arg) r' := by
  simp only [pMethods, h]
  cases ps <;> rfl

theorem pMethods_step_un {dateP} {n : Nat} {acc : ETree} {r r' : List Char} {u : Un}
    (h : pBinMethod dateP n r = .err) (hu : pUnMethod r = some (u, r')) :
    pMethods dateP (n + 1) acc ('.' :: r) = pMethods dateP n (.un u acc) r' := by
  simp only [pMethods, h, hu]

/-- one more method call: `T Y` is the text of the call that makes `e` of `a`, `R` the fuel of its argument -/
theorem mstar_step {dateP} {a e : ETree} {T : List Char → List Char} (R : Nat) (hr : recvOK a = true) (hM : MStar dateP a)
    (hshow : ∀ Y, showC e ++ Y = showC a ++ '.' :: T Y) (hmsp : msp e = msp a + 1) (hneed : needE a + R ≤ needE e)
    (hstep : ∀ Y k, R ≤ k → pMethods dateP (k + 2) a ('.' :: T Y) = pMethods dateP (k + 1) e Y) : MStar dateP e := by
  intro Y n hY hn
  have hn' : needE a + R + 10 ≤ n := Nat.le_trans (Nat.add_le_add_right hneed 10) hn
  obtain ⟨k, hk, hR⟩ := fuel_rest (msp_le a) hn'
  rw [hshow, hM _ n (.inr ⟨_, rfl, hr⟩) (Nat.le_trans (Nat.add_le_add_right (Nat.le_add_right _ R) 10) hn'), hmsp,
    Nat.sub_add_eq, hk]
  exact hstep Y (k + 38) (Nat.le_add_right_of_le hR)

theorem mstar_call {dateP} (hd : DateShape dateP) {u : Un} {m : List Char} (hu : unName u = some m)
    (hv : ∀ n, u = .ffi n → validNameL n.toList = true) {a : ETree} (hr : recvOK a = true) (hM : MStar dateP a) :
    MStar dateP (.un u a) := by
  refine mstar_step (T := fun Y => m ++ '(' :: ')' :: Y) 40 hr hM (fun Y => ?_) ?_ (Nat.le_refl _) (fun Y k hk => ?_)
  · simp only [showC_call hu, List.append_assoc, List.cons_append, List.nil_append]
  · simp only [msp, hu, Option.isSome_some, ↓reduceIte]
  · exact pMethods_step_un (pBinMethod_call hd hu hv k (Nat.le_trans (by decide) hk) Y) (pUnMethod_call hu hv Y)

theorem mstar_bin_method {dateP} {b : Bin} {l r : ETree} {m : List Char} (hb : infixOf b = none) (hm : methodC b = some m)
    (hffi : ∀ n, b = .ffi n → validNameL n.toList = true) (hc : isClosureOp b = false)
    (hr : recvOK l = true) (hM : MStar dateP l) (hwr : Gram dateP r) (hF : Final dateP 0 r) :
    MStar dateP (.bin b l r) := by
  refine mstar_step (T := fun Y => m ++ '(' :: (showC r ++ ')' :: Y)) (needE r + 40) hr hM (fun Y => ?_) ?_
    (Nat.le_of_eq (Nat.add_assoc _ _ _).symm) (fun Y k hk => pMethods_step_bin (pBinMethod_arg
      (pBinMethodName_of _ hm hffi) hc (by rw [hwr.space0]; exact final0_close hF Y k hk) (space0_close _)))
  · simp only [showC_method hb hm, List.append_assoc, List.cons_append, List.nil_append]
  · simp only [msp, hb, Option.isNone_none, ↓reduceIte]

theorem mstar_closure_method {dateP} {b : Bin} {l body : ETree} {p : String} {m : List Char} (hb : infixOf b = none)
    (hm : methodC b = some m) (hc : isClosureOp b = true) (hp : validNameL p.toList = true)
    (hr : recvOK l = true) (hM : MStar dateP l) (hwb : Gram dateP body) (hF : Final dateP 0 body) :
    MStar dateP (.bin b l (.clo [p] body)) := by
  refine mstar_step (T := fun Y => m ++ '(' :: '$' :: (p.toList ++ ' ' :: '-' :: '>' :: ' ' :: (showC body ++ ')' :: Y)))
    (needE body + 40 + 40) hr hM (fun Y => ?_) ?_ (Nat.le_of_eq (Nat.add_assoc _ _ _).symm) (fun Y k hk => ?_)
  · simp only [showC_closure hb hm, List.append_assoc, List.cons_append, List.nil_append]
  · simp only [msp, hb, Option.isNone_none, ↓reduceIte]
  · have hffi : ∀ n, b = .ffi n → validNameL n.toList = true := fun n hn => by subst hn; cases hc
    have hname := pName_rt p.toList (' ' :: '-' :: '>' :: ' ' :: (showC body ++ ')' :: Y)) hp (forall_head_cons (by decide))
    have htag : tag ['-', '>'] (space0 (' ' :: '-' :: '>' :: ' ' :: (showC body ++ ')' :: Y))) =
        some (' ' :: (showC body ++ ')' :: Y)) := tag_word ⟨'-', ['>'], rfl, by decide⟩ _
    have := pBinMethod_clo (pBinMethodName_of _ hm hffi) hc (space0_cons _ (by decide)) hname htag
      (by rw [space0_blank, hwb.space0]; exact final0_close hF Y k (Nat.le_of_add_right_le hk)) (space0_close _)
    rw [String.ofList_toList] at this
    exact pMethods_step_bin this

/-! ## negation, infix operators, comparisons -/

theorem final8_negate {dateP} {a : ETree} (hwa : Gram dateP a) (hF : Final dateP 6 a) :
    Final dateP 8 (.un .negate a) := by
  intro X fuel hX ho hf
  obtain ⟨n, rfl⟩ := fuel_split 2 hf (Nat.le_refl _) (by decide)
  have h6 : Stops 6 X := ho rfl
  have ha := hF X n h6 (fun _ => h6) (fuel_child 2 6 hf (Nat.le_refl _) (by decide) (Nat.le_refl _))
  rw [pLevel_step_top _ _ (Nat.le_refl 8)]
  simp only [showC, List.cons_append, pExpr8, space0_cons _ (show isSpace '!' = false by decide), hwa.space0, ha]

theorem stops_infix {b : Bin} {j : Nat} {sym : List Char} (hb : infixOf b = some (j, sym)) (k : Nat) (hk : j < k)
    (Z : List Char) : Stops k (' ' :: (sym ++ ' ' :: Z)) :=
  ⟨forall_head_cons (.inl rfl), .inr (.inr ⟨b, j, sym, Z, hb, hk, by rw [space0_blank, space0_sym hb]⟩)⟩

theorem firstTag_after {b : Bin} {k : Nat} {sym : List Char} (hb : infixOf b = some (k, sym)) (Z : List Char) :
    firstTag (opsAt k) (space0 (' ' :: (sym ++ ' ' :: Z))) = some (b, ' ' :: Z) := by
  rw [space0_blank, space0_sym hb, firstTag_infix b k sym _ hb]

theorem star_infix {dateP} {k : Nat} (hk : LoopLevel k) {b : Bin} {sym : List Char} (hb : infixOf b = some (k, sym))
    {l rhs : ETree} (hSl : Star dateP k l) (hFr : Final dateP (k + 1) rhs) (hopen : k < 6 ∨ openE l = false) :
    Star dateP k (foldOne l b rhs) := by
  intro X n hX ho hn
  have hneed := (needE_foldOne (b := b) l rhs).1
  have hYo : openE l = true → Stops 6 (' ' :: (sym ++ ' ' :: (showC rhs ++ X))) := by
    intro hol
    rcases hopen with h | h
    · exact stops_infix hb 6 h _
    · rw [h] at hol; cases hol
  have h1 := hSl _ n (stops_infix hb (k + 1) (Nat.lt_succ_self k) _) hYo
    (Nat.le_trans (Nat.add_le_add_right (Nat.le_trans (Nat.le_add_right _ _) hneed) 40) hn)
  -- what the loop has left when it has read `l` is enough for `rhs`
  obtain ⟨m, hm, hR⟩ := fuel_rest (sp_le k l)
    (Nat.le_trans (Nat.add_le_add_right hneed 10) (fuel_ten 1 hn (Nat.le_of_lt (loopLevel_iff.mp hk).1) (by decide)))
  have hr := hFr X (m + 39) hX (fun h => ho ((openE_foldOne hb _ _).trans h))
    (Nat.le_trans hR (Nat.le_trans (Nat.le_add_right m 39) (Nat.le_add_right _ _)))
  rw [showC_foldOne_append hb, h1, hm, pLoop_step (firstTag_after hb _) ((pLevel_blank _ _ _).trans hr), sp_foldOne hb,
    if_pos rfl, Nat.sub_add_eq, hm]
  rfl

theorem final2_cmp {dateP} {b : Bin} {sym : List Char} (hb : infixOf b = some (2, sym)) {l r : ETree}
    (hF3l : Final dateP 3 l) (hF3r : Final dateP 3 r) : Final dateP 2 (foldOne l b r) := by
  intro X fuel hX ho hf
  have hneed := (needE_foldOne (b := b) l r).1
  obtain ⟨n, rfl⟩ := fuel_split 1 hf (by decide) (by decide)
  have hl := hF3l (' ' :: (sym ++ ' ' :: (showC r ++ X))) n (stops_infix hb 3 (by decide) _)
    (fun _ => stops_infix hb 6 (by decide) _)
    (fuel_child 1 3 hf (by decide) (by decide) (Nat.le_trans (Nat.add_le_add_left (Nat.le_add_left 40 _) _) hneed))
  have hr := hF3r X n (hX.mono (by decide)) (fun h => ho ((openE_foldOne hb _ _).trans h))
    (fuel_child 1 3 hf (by decide) (by decide) (Nat.le_trans (Nat.le_add_left _ _) hneed))
  have hz : isLazy b = false := Bool.eq_false_iff.mpr fun h => absurd ((infix_level hb).2.mp h) (by decide)
  have hf2 : foldOne l b r = .bin b l r := by rw [foldOne_eq, hz]; rfl
  rw [showC_foldOne_append hb, hf2]
  exact pLevel_step_cmp_some hl (firstTag_after hb _) ((pLevel_blank _ _ _).trans hr)

/-! ## every tree of the grammar, at every level at which it can stand -/

structure Good (dateP : List Char → Option Nat) (e : ETree) : Prop where
  final : ∀ k, k ≤ 8 → k ≤ lev e → Final dateP k e
  star : ∀ k, LoopLevel k → k ≤ lev e → Star dateP k e
  mstar : lev e = 9 → MStar dateP e

theorem Good.final0 {dateP} {e : ETree} (h : Good dateP e) : Final dateP 0 e :=
  h.final 0 (Nat.zero_le _) (Nat.zero_le _)

theorem good_of_top {dateP} (hd : DateShape dateP) {e : ETree} (T : Nat) (hT : T ≤ 8) (hTl : T ≤ lev e)
    (htop : ∀ k, k ≤ 8 → k ≤ lev e → k ≤ T) (hF : Final dateP T e) (hS : LoopLevel T → Star dateP T e)
    (hM : lev e = 9 → MStar dateP e) : Good dateP e := by
  refine ⟨fun k h8 hl => ?_, fun k hl hk => ?_, hM⟩
  · exact (final_down hd e (T - k) T hT hTl hF k (Nat.add_sub_of_le (htop k h8 hl))).1
  · have hkT := htop k (Nat.le_of_lt (loopLevel_iff.mp hl).1) hk
    rcases Nat.eq_or_lt_of_le hkT with rfl | hlt
    · exact hS hl
    · exact (final_down hd e (T - k) T hT hTl hF k (Nat.add_sub_of_le hkT)).2 hl hlt

theorem good_of_top8 {dateP} (hd : DateShape dateP) {e : ETree} (hl : 8 ≤ lev e) (hF : Final dateP 8 e)
    (hM : lev e = 9 → MStar dateP e) : Good dateP e :=
  good_of_top hd 8 (Nat.le_refl _) hl (fun _ h _ => h) hF (fun h => absurd (loopLevel_iff.mp h).1 (by decide)) hM

theorem good_of_mstar {dateP} (hd : DateShape dateP) {e : ETree} (hw : Gram dateP e) (h9 : lev e = 9) (hM : MStar dateP e) :
    Good dateP e :=
  good_of_top8 hd (h9 ▸ by decide) (final8_of_mstar hw h9 hM) (fun _ => hM)

theorem good_of_gram {dateP} (hd : DateShape dateP) {e : ETree} (h : Gram dateP e) : Good dateP e := by
  induction h with
  | val hw => exact good_of_mstar hd (.val hw) rfl (mstar_val hd hw)
  | negate ha hl ih =>
    exact good_of_top8 hd (Nat.le_refl 8) (final8_negate ha (ih.final 6 (by decide) hl)) (fun h => by cases h)
  | parens ha ih =>
    exact good_of_mstar hd ha.parens rfl (mstar_parens ha ih.final0)
  | call hu hv ha hl hr ih =>
    exact good_of_mstar hd (.call hu hv ha hl hr) (by rcases unName_cases hu with ⟨rfl, -⟩ | ⟨rfl, -⟩ | ⟨n, rfl, -⟩ <;> rfl)
      (mstar_call hd hu hv hr (ih.mstar hl))
  | @«infix» b j sym l rhs hb hl hr hll hlr ho ihl ihr =>
    have hj7 := (infix_level hb).1
    have hlev := lev_foldOne hb l rhs
    have htop : ∀ k, k ≤ 8 → k ≤ lev (foldOne l b rhs) → k ≤ j := fun k _ h => hlev ▸ h
    have h9 : lev (foldOne l b rhs) = 9 → MStar dateP (foldOne l b rhs) :=
      fun h => absurd (hlev.symm.trans h ▸ hj7) (by decide)
    by_cases hj2 : j = 2
    · subst hj2
      exact good_of_top hd 2 (by decide) (Nat.le_of_eq hlev.symm) htop
        (final2_cmp hb (ihl.final 3 (by decide) hll) (ihr.final 3 (by decide) hlr))
        (fun h => absurd rfl (loopLevel_iff.mp h).2) h9
    · have hk : LoopLevel j := loopLevel_iff.mpr ⟨Nat.lt_succ_of_le hj7, hj2⟩
      rw [if_neg hj2] at hll
      have hS := star_infix hk hb (ihl.star j hk hll) (ihr.final (j + 1) (Nat.succ_le_succ hj7) hlr) ho
      exact good_of_top hd j (Nat.le_succ_of_le hj7) (Nat.le_of_eq hlev.symm) htop (star_to_final hd hk hS)
        (fun _ => hS) h9
  | method hb hm hv hc hl hll hrl hr ihl ihr =>
    exact good_of_mstar hd (.method hb hm hv hc hl hll hrl hr) (by simp only [lev, hb])
      (mstar_bin_method hb hm hv hc hrl (ihl.mstar hll) hr ihr.final0)
  | closure hb hm hc hp hl hll hrl hr ihl ihr =>
    exact good_of_mstar hd (.closure hb hm hc hp hl hll hrl hr) (by simp only [lev, hb])
      (mstar_closure_method hb hm hc hp hrl (ihl.mstar hll) hr ihr.final0)

/-! ## C14 for expressions -/

/-- **C14, expressions (explicit fuel).** -/
theorem expr_round_trip_fuel {dateP} (hd : DateShape dateP) (e : ETree) (X : List Char) (hw : wfE dateP e = true)
    (hX : Stops 0 X) (ho : openE e = true → Stops 6 X) (fuel : Nat) (hf : needE e + 40 ≤ fuel) :
    pLevel dateP 0 fuel (showC e ++ X) = .ok e X :=
  (good_of_gram hd (.of_wfE e hw)).final0 X fuel hX ho hf

theorem termC_pos_of_wfV {dateP} {t : STerm} (h : wfV dateP t = true) : 1 ≤ (termC t).length := by
  obtain ⟨c, tl, hs, _⟩ := termC_head_of_wfV t h
  rw [hs]; exact Nat.succ_pos _

theorem needV_le {dateP} {t : STerm} (h : wfV dateP t = true) : needT t ≤ 5 * (termC t).length := by
  rcases wfV_cases h with ⟨n, rfl, _⟩ | hw
  · exact Nat.le_trans (termC_pos_of_wfV h) (Nat.le_mul_of_pos_left _ (by decide))
  · exact needT_le t .fact hw

/-- a node adds 40 to the need and a character pays 50: one character more than the operand is enough -/
theorem need_le1 {a la l : Nat} (ha : a ≤ 50 * la) (hl : la < l) : a + 40 ≤ 50 * l := by
  omega

/-- two operands: the `x` characters of a name, one before it, one after it, and the second operand within `lb'` -/
theorem need_le2 {a b la lb lb' : Nat} (x : Nat) (ha : a ≤ 50 * la) (hb : b ≤ 50 * lb) (hlb : lb ≤ lb') :
    a + b + 80 ≤ 50 * (la + (x + (lb' + 1) + 1)) := by
  omega

theorem Gram.needE_le {dateP} {e : ETree} (h : Gram dateP e) : needE e ≤ 50 * (showC e).length := by
  induction h with
  | val hw =>
    have h1 := needV_le hw
    have h2 := termC_pos_of_wfV hw
    simp only [needE, showC]; omega
  | negate _ _ ih => exact need_le1 ih (Nat.lt_succ_self _)
  | parens _ ih =>
    rw [showC, List.length_cons, List.length_append]
    exact need_le1 ih (Nat.lt_succ_of_lt (Nat.lt_succ_self _))
  | call hu _ _ _ _ ih =>
    rw [showC_call hu, List.length_append]
    exact need_le1 ih (Nat.lt_add_of_pos_right (Nat.succ_pos _))
  | @«infix» b _ _ l rhs hb _ _ _ _ _ ihl ihr =>
    rw [showC_foldOne hb, List.length_append, List.length_cons, List.length_append, List.length_cons]
    exact Nat.le_trans (needE_foldOne (b := b) l rhs).2 (need_le2 _ ihl ihr (Nat.le_refl _))
  | method hb hm _ _ _ _ _ _ ihl ihr =>
    rw [showC_method hb hm, List.length_append, List.length_cons, List.length_append, List.length_cons, List.length_append]
    exact Nat.le_trans (Nat.add_le_add_left (by decide) _) (need_le2 _ ihl ihr (Nat.le_succ _))
  | closure hb hm _ _ _ _ _ _ ihl ihr =>
    simp only [needE, showC_closure hb hm, List.length_append, List.length_cons, List.length_nil]; omega

/-- the fuel the driver gives is enough for every printed tree -/
theorem needE_le {dateP} : ∀ e : ETree,
    (wfE dateP e = true → needE e ≤ 50 * (showC e).length) ∧
    (∀ ps body, e = .clo ps body → wfE dateP body = true → needE body ≤ 50 * (showC body).length) :=
  fun e => ⟨fun hw => (Gram.of_wfE e hw).needE_le, fun _ body _ hw => (Gram.of_wfE body hw).needE_le⟩

/-- **C14, expressions.** The parser model the stream `exprparse` runs against the real `expr`,
    applied to the printed form of any tree of the grammar followed by text that does not
    continue the expression, returns that tree and leaves that text. -/
theorem expr_round_trip {dateP} (hd : DateShape dateP) (e : ETree) (X : List Char) (hw : wfE dateP e = true)
    (hX : Stops 0 X) (ho : openE e = true → Stops 6 X) : parseExpr dateP (showC e ++ X) = .ok e X :=
  expr_round_trip_fuel hd e X hw hX ho _ (cover_mono (Nat.add_le_add_right (Gram.of_wfE e hw).needE_le 40) (Nat.le_refl 50)
    (List.length_append ▸ Nat.le_add_right _ _) (by decide))

/-! ## the character-level printer is `Expression::print`'s model -/

theorem ops_infixSym : ∀ j < 8, ∀ p ∈ opsAt j, infixSym p.2 = some (String.ofList p.1) := by decide +kernel

theorem infixSym_of {b : Bin} {j : Nat} {sym : List Char} (h : infixOf b = some (j, sym)) :
    infixSym b = some (String.ofList sym) :=
  ops_infixSym j (infix_mem h).1 _ (infix_mem h).2

theorem printBin_infix {b : Bin} {j : Nat} {sym : List Char} (hb : infixOf b = some (j, sym)) (l r : String) :
    (printBin b l r).toList = l.toList ++ ' ' :: (sym ++ ' ' :: r.toList) := by
  simp only [printBin, infixSym_of hb, String.toList_append, String.reduceToList, String.toList_ofList, List.append_assoc,
    List.cons_append, List.nil_append]

theorem printBin_method {b : Bin} {m : List Char} (hm : methodC b = some m) (l r : String) :
    (printBin b l r).toList = l.toList ++ '.' :: (m ++ '(' :: (r.toList ++ [')'])) := by
  obtain ⟨hnone, hname, _⟩ := methodC_spec hm
  simp only [printBin, hnone, hname, String.toList_append, String.reduceToList, List.append_assoc, List.cons_append,
    List.nil_append]

theorem Gram.showTree_eq {dateP} {e : ETree} (h : Gram dateP e) : (showTree e).toList = showC e := by
  induction h with
  | val => exact printTerm_eq_termC _
  | negate _ _ ih | parens _ ih =>
    simp only [showTree, printUn, showC, String.toList_append, String.reduceToList, ih, List.cons_append, List.nil_append]
  | call hu _ _ _ _ ih =>
    rcases unName_cases hu with ⟨rfl, -⟩ | ⟨rfl, -⟩ | ⟨n, rfl, -⟩ <;>
      simp only [showTree, printUn, showC, String.toList_append, ih, List.append_assoc]
  | @«infix» b _ _ l rhs hb _ _ _ _ _ ihl ihr =>
    rw [showC_foldOne hb, foldOne_eq, showTree, printBin_infix hb, ihl]
    split
    · simp only [showTree, printClosure, List.isEmpty_nil, ↓reduceIte, ihr]
    · rw [ihr]
  | method hb hm _ _ _ _ _ _ ihl ihr => rw [showTree, printBin_method hm, showC_method hb hm, ihl, ihr]
  | closure hb hm _ _ _ _ _ _ ihl ihr =>
    simp only [showTree, printBin_method hm, showC_closure hb hm, ihl, printClosure, List.isEmpty_cons, Bool.false_eq_true,
      ↓reduceIte, List.map_cons, List.map_nil, joinWith, String.toList_append, String.reduceToList, ihr, List.append_assoc,
      List.cons_append, List.nil_append]

/-- on the trees of the grammar, `showC` is the text `showTree` (the infix rendering that
    `Expression::print` produces: `printExpr_opcodes`) -/
theorem showTree_eq_showC {dateP} : ∀ e : ETree,
    (wfE dateP e = true → (showTree e).toList = showC e) ∧
    (∀ ps body, e = .clo ps body → wfE dateP body = true → (showTree body).toList = showC body) :=
  fun e => ⟨fun hw => (Gram.of_wfE e hw).showTree_eq, fun _ body _ hw => (Gram.of_wfE body hw).showTree_eq⟩

/-! ## non-vacuity -/

theorem stops_nil (k : Nat) : Stops k [] :=
  ⟨fun _ h => (nomatch h), .inl rfl⟩

/-- `!$a.length() + 2 * $c.contains(1) - 3 <= [1, 2].all($x -> $x > 0 && true) || ($d & 1) === 1` -/
def exTree : ETree :=
  .bin .lazyOr
    (.bin .le
      (.un .negate
        (.bin .sub
          (.bin .add (.un .length (.val (.var "a")))
            (.bin .mul (.val (.int 2)) (.bin .contains (.val (.var "c")) (.val (.int 1)))))
          (.val (.int 3))))
      (.bin .all (.val (.arr [.int 1, .int 2]))
        (.clo ["x"] (.bin .lazyAnd (.bin .gt (.val (.var "x")) (.val (.int 0))) (.clo [] (.val (.bool true)))))))
    (.clo [] (.bin .eq (.un .parens (.bin .band (.val (.var "d")) (.val (.int 1)))) (.val (.int 1))))

theorem exTree_wf : wfE (fun _ => none) exTree = true := by decide +kernel

example : wfE (fun _ => none) exTree = true := exTree_wf

example : parseExpr (fun _ => none) (showC exTree ++ [',', ' ', 'f', '(', '1', ')']) = .ok exTree [',', ' ', 'f', '(', '1', ')'] :=
  expr_round_trip dateShape_none exTree _ exTree_wf
    (stops_punct (.inr (.inl rfl)) 0 _)
    (fun h => by have hc : openE exTree = false := by decide
                 rw [hc] at h; cases h)

end Biscuit.ExprParser
