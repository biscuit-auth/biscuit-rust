/-
  C02 — every token the API builds verifies; every signature in it is over the payload
  layout the Biscuit specification fixes for that block's signature version.
-/
import BiscuitModel.Model.Crypto
import BiscuitModel.Model.Wire
import BiscuitModel.Lemmas.WireDec
namespace Biscuit.C02
open Biscuit

/-! ## the layouts the code builds are the layouts of the specification
    (`Gen.*` is regenerated from crypto/mod.rs on every run; `Spec.*` is written from the spec) -/

theorem gen_blockV0_eq_spec (data : Bytes) (k : PubKey) (ext : Option Bytes) (p s : Bytes) (v : Nat) :
    Gen.blockV0 data k.bytes p s k.alg v ext = Spec.blockV0 data ext k := by
  cases ext <;> rfl

theorem gen_authorityV0_eq_spec (data : Bytes) (k : PubKey) (p s : Bytes) (v : Nat) (e : Option Bytes) :
    Gen.authorityV0 data k.bytes p s k.alg v e = Spec.blockV0 data none k := by
  simp [Gen.authorityV0, Spec.blockV0]

theorem gen_authorityV1_eq_spec (data : Bytes) (k : PubKey) (p s : Bytes) (v : Nat) (e : Option Bytes) :
    Gen.authorityV1 data k.bytes p s k.alg v e = Spec.authorityV1 v data k := rfl

theorem gen_blockV1_eq_spec (data : Bytes) (k : PubKey) (prevSig s : Bytes) (v : Nat) (ext : Option Bytes) :
    Gen.blockV1 data k.bytes prevSig s k.alg v ext = Spec.blockV1 v data k prevSig ext := by
  cases ext with
  | none => exact List.append_nil _
  | some e => exact List.append_assoc _ _ _

theorem gen_externalV1_eq_spec (data prevSig kb s : Bytes) (alg v : Nat) (e : Option Bytes) :
    Gen.externalV1 data kb prevSig s alg v e = Spec.externalV1 v data prevSig := rfl

theorem gen_sealV0_eq_spec (data : Bytes) (k : PubKey) (p sig : Bytes) (v : Nat) (e : Option Bytes) :
    Gen.sealV0 data k.bytes p sig k.alg v e = Spec.sealed data k sig := rfl

/-- **Every signature payload the verifier and the signer compute is the specification's.** -/
theorem payloads_eq_spec (b : SBlock) (prevSig : Bytes) :
    (b.version.getD 0 = 0 → blockPayload b prevSig = some (Spec.blockV0 b.data (b.ext.map (·.sig)) b.nextKey) ∧
                           authorityPayload b = some (Spec.blockV0 b.data (b.ext.map (·.sig)) b.nextKey)) ∧
    (b.version.getD 0 = 1 → blockPayload b prevSig = some (Spec.blockV1 1 b.data b.nextKey prevSig (b.ext.map (·.sig))) ∧
                           authorityPayload b = some (Spec.authorityV1 1 b.data b.nextKey)) ∧
    externalPayload b prevSig = Spec.externalV1 (b.version.getD 0) b.data prevSig ∧
    sealPayload b = Spec.sealed b.data b.nextKey b.sig := by
  unfold blockPayload authorityPayload
  refine ⟨fun h => ?_, fun h => ?_, gen_externalV1_eq_spec .., gen_sealV0_eq_spec ..⟩
  · rw [h]
    exact ⟨congrArg some (gen_blockV0_eq_spec ..), congrArg some (gen_blockV0_eq_spec ..)⟩
  · rw [h]
    exact ⟨congrArg some (gen_blockV1_eq_spec ..), congrArg some (gen_authorityV1_eq_spec ..)⟩

theorem unknown_signature_version_refused (b : SBlock) (prevSig : Bytes) (h : 2 ≤ b.version.getD 0) :
    blockPayload b prevSig = none ∧ authorityPayload b = none := by
  unfold blockPayload authorityPayload
  match b.version.getD 0, h with
  | n + 2, _ => exact ⟨rfl, rfl⟩

theorem authorityPayload_sig (b : SBlock) (s : Bytes) : authorityPayload { b with sig := s } = authorityPayload b := rfl

theorem blockPayload_sig (b : SBlock) (s prev : Bytes) : blockPayload { b with sig := s } prev = blockPayload b prev := rfl

/-! ## signature version chosen for a new block -/

theorem sigVersion_third_party (a b : Nat) (dv : Option Nat) (prev : List Nat) :
    sigVersion a b true dv prev = Gen.thirdPartySignatureVersion := by simp [sigVersion]

theorem sigVersion_datalog33 (a b v : Nat) (prev : List Nat) (h : Gen.datalog33 ≤ v) :
    sigVersion a b false (some v) prev = Gen.datalog33SignatureVersion := by simp [sigVersion, needs33, h]

theorem sigVersion_non_ed25519 (a b : Nat) (dv : Option Nat) (prev : List Nat)
    (hdv : needs33 dv = false) (h : a ≠ ed25519 ∨ b ≠ ed25519) :
    sigVersion a b false dv prev = Gen.nonEd25519SignatureVersion := by
  have h2 : (a == ed25519 && b == ed25519) = false := by
    rcases h with h | h <;> simp [h]
  simp [sigVersion, hdv, h2]

theorem sigVersion_ed25519 (dv : Option Nat) (prev : List Nat) (hdv : needs33 dv = false) :
    sigVersion ed25519 ed25519 false dv prev = prev.foldl max 0 := by
  simp [sigVersion, hdv]

theorem foldl_max_le {l : List Nat} {acc n : Nat} : l.foldl max acc ≤ n ↔ acc ≤ n ∧ ∀ x ∈ l, x ≤ n := by
  induction l generalizing acc with
  | nil => exact (and_iff_left (List.forall_mem_nil _)).symm
  | cons y ys ih => rw [List.foldl_cons, ih, Nat.max_le, List.forall_mem_cons, and_assoc]

theorem sigVersion_cases (a b : Nat) (hasExt : Bool) (dv : Option Nat) (prev : List Nat) :
    sigVersion a b hasExt dv prev = 1 ∨ sigVersion a b hasExt dv prev = prev.foldl max 0 := by
  unfold sigVersion
  cases hasExt
  · cases needs33 dv
    · cases (a == ed25519 && b == ed25519)
      · exact .inl rfl
      · exact .inr rfl
    · exact .inl rfl
  · exact .inl rfl

/-- the chained scheme, once used, is kept: the version of a new block is at least every earlier one -/
theorem sigVersion_never_back (a b : Nat) (hasExt : Bool) (dv : Option Nat) (prev : List Nat) (x : Nat) (hx : x ∈ prev)
    (h1 : x ≤ 1) : x ≤ sigVersion a b hasExt dv prev := by
  rcases sigVersion_cases a b hasExt dv prev with h | h <;> rw [h]
  · exact h1
  · exact (foldl_max_le.1 (Nat.le_refl _)).2 x hx

theorem sigVersion_le_one (a b : Nat) (hasExt : Bool) (dv : Option Nat) (prev : List Nat)
    (hp : ∀ x ∈ prev, x ≤ 1) : sigVersion a b hasExt dv prev ≤ 1 := by
  rcases sigVersion_cases a b hasExt dv prev with h | h <;> rw [h]
  · exact Nat.le_refl 1
  · exact foldl_max_le.2 ⟨Nat.zero_le 1, hp⟩

/-! ## what verification checks -/

theorem verifyAuthority_iff (S : Scheme) (root : PubKey) (b : SBlock) :
    verifyAuthority S root b = true ↔ ∃ p, authorityPayload b = some p ∧ S.verify root p b.sig = true := by
  unfold verifyAuthority
  cases authorityPayload b <;> simp

theorem verifyBlock_iff (S : Scheme) (pk : PubKey) (prev : Bytes) (b : SBlock) :
    verifyBlock S pk prev b = true ↔ ∃ p, blockPayload b prev = some p ∧ S.verify pk p b.sig = true ∧
      ∀ e, b.ext = some e → S.verify e.key (externalPayload b prev) e.sig = true := by
  unfold verifyBlock
  cases blockPayload b prev <;> cases b.ext <;> simp

theorem verifyProof_secret (S : Scheme) (l : SBlock) (sk : Bytes) :
    verifyProof S l (.secret sk) = true ↔ S.pub l.nextKey.alg sk = some l.nextKey := by
  simp only [verifyProof]
  cases S.pub l.nextKey.alg sk <;> simp

theorem verifyChain_cons (S : Scheme) (pk : PubKey) (sig : Bytes) (last b : SBlock) (rest : List SBlock) :
    verifyChain S pk sig last (b :: rest) =
      if verifyBlock S pk sig b then verifyChain S b.nextKey b.sig b rest else none := rfl

/-- `verifyChain_snoc` for any start of the walk, as the induction needs it -/
theorem verifyChain_append (S : Scheme) (b : SBlock) :
    ∀ (bs : List SBlock) (pk : PubKey) (sig : Bytes) (last : SBlock),
      verifyChain S pk sig last (bs ++ [b]) =
        match verifyChain S pk sig last bs with
        | some l => if verifyBlock S (if bs.isEmpty then pk else l.nextKey) (if bs.isEmpty then sig else l.sig) b then some b else none
        | none => none := by
  intro bs
  induction bs with
  | nil => exact fun _ _ _ => rfl
  | cons x xs ih =>
    intro pk sig last
    rw [List.cons_append, verifyChain_cons, verifyChain_cons]
    cases verifyBlock S pk sig x with
    | false => rfl
    | true =>
      rw [if_pos rfl, if_pos rfl, ih]
      cases xs <;> rfl

/-- the chain walk as it is started by `verify_inner`: from a block, with its next key and signature -/
theorem verifyChain_snoc (S : Scheme) (b : SBlock) (bs : List SBlock) (a : SBlock) :
    verifyChain S a.nextKey a.sig a (bs ++ [b]) =
      (verifyChain S a.nextKey a.sig a bs).bind fun l => if verifyBlock S l.nextKey l.sig b then some b else none := by
  rw [verifyChain_append]
  cases bs with
  | nil => rfl
  | cons x xs => cases verifyChain S a.nextKey a.sig a (x :: xs) <;> rfl

theorem lastBlock_of_chain {S : Scheme} {bs : List SBlock} {pk : PubKey} {sig : Bytes} {a l : SBlock}
    (h : verifyChain S pk sig a bs = some l) : l = bs.getLast?.getD a := by
  induction bs generalizing pk sig a with
  | nil => exact (Option.some.inj h).symm
  | cons x xs ih =>
    rw [ih (Option.ite_none_right_eq_some.1 h).2]
    cases xs <;> rfl

theorem verifyToken_iff (S : Scheme) (root : PubKey) (c : Container) :
    verifyToken S root c = true ↔
      wellFormed c = true ∧ verifyAuthority S root c.authority = true ∧
      verifyChain S c.authority.nextKey c.authority.sig c.authority c.blocks = some c.lastBlock ∧
      verifyProof S c.lastBlock c.proof = true := by
  simp only [verifyToken, Bool.and_eq_true, and_assoc]
  refine and_congr_right fun _ => and_congr_right fun _ => ?_
  cases hch : verifyChain S c.authority.nextKey c.authority.sig c.authority c.blocks with
  | none => exact ⟨nofun, nofun⟩
  | some l =>
    cases lastBlock_of_chain hch
    exact ⟨fun h => ⟨rfl, h⟩, fun h => h.2⟩

/-! ## tokens built through the API verify -/

/-- all that is assumed of the scheme for the tokens the API builds -/
structure Correct (S : Scheme) : Prop where
  /-- a signature made with a secret verifies under its public key -/
  verifies : ∀ alg sk pk m, S.pub alg sk = some pk → S.verify pk m (S.sign alg sk m) = true
  /-- the public key of a secret of algorithm `alg` is tagged `alg` -/
  tagged : ∀ alg sk pk, S.pub alg sk = some pk → pk.alg = alg

theorem wireVersion_getD (v : Nat) : (wireVersion v).getD 0 = v := by
  unfold wireVersion
  split
  · rfl
  · next h => exact (Nat.eq_zero_of_not_pos h).symm

/-- **A freshly built token verifies under the public part of the root key.** -/
theorem new_token_verifies (S : Scheme) (hS : Correct S) (rk : Option Nat) (rootAlg : Nat) (rootSk : Bytes) (root : PubKey)
    (hroot : S.pub rootAlg rootSk = some root) (nextAlg : Nat) (nextSk data : Bytes) (dv : Nat) (c : Container)
    (h : newToken S rk rootAlg rootSk nextAlg nextSk data dv = some c) : verifyToken S root c = true := by
  unfold newToken at h
  split at h
  · cases h
  · rename_i nk hnk
    simp only at h
    split at h
    · cases h
    · rename_i p hp
      cases h
      refine (verifyToken_iff S root _).mpr ⟨rfl, ?_, rfl, ?_⟩
      · exact (verifyAuthority_iff ..).mpr ⟨p, hp, hS.verifies _ _ _ p hroot⟩
      · rw [verifyProof_secret]
        exact (hS.tagged _ _ _ hnk).symm ▸ hnk

/-- what `append_third_party` checks before adding the block: the external signature verifies
    under the stated key over the block's bytes and the signature of the block it follows -/
def ExtOK (S : Scheme) (c : Container) (data : Bytes) (ext : Option ExtSig) : Prop :=
  ∀ e, ext = some e → S.verify e.key (Spec.externalV1 Gen.thirdPartySignatureVersion data c.lastBlock.sig) e.sig = true

theorem appendBlock_some (S : Scheme) (c c' : Container) (nextAlg : Nat) (nextSk data : Bytes) (ext : Option ExtSig)
    (dv : Option Nat) (h : appendBlock S c nextAlg nextSk data ext dv = some c') :
    ∃ b, c' = { c with blocks := c.blocks ++ [b], proof := .secret nextSk } ∧
      ∃ sk p, c.proof = .secret sk ∧ S.pub nextAlg nextSk = some b.nextKey ∧ b.data = data ∧ b.ext = ext ∧
        b.version = wireVersion (sigVersion c.lastBlock.nextKey.alg nextAlg ext.isSome dv
          ((c.authority :: c.blocks).map fun b => b.version.getD 0)) ∧
        blockPayload b c.lastBlock.sig = some p ∧ b.sig = S.sign c.lastBlock.nextKey.alg sk p := by
  unfold appendBlock at h
  split at h
  · cases h
  · rename_i sk hproof
    split at h
    · cases h
    · rename_i nk hnk
      simp only at h
      split at h
      · cases h
      · rename_i p hp
        cases h
        exact ⟨⟨data, nk, S.sign c.lastBlock.nextKey.alg sk p, ext, _⟩, rfl, sk, p, hproof, hnk, rfl, rfl, rfl, hp, rfl⟩

theorem lastBlock_snoc (c : Container) (b : SBlock) (pr : Proof) :
    ({ c with blocks := c.blocks ++ [b], proof := pr } : Container).lastBlock = b := by
  simp [Container.lastBlock]

/-- **Appending a block (first- or third-party) to a token that verifies gives a token that verifies.** -/
theorem append_verifies (S : Scheme) (hS : Correct S) (root : PubKey) (c c' : Container)
    (hv : verifyToken S root c = true) (nextAlg : Nat) (nextSk data : Bytes) (ext : Option ExtSig) (dv : Option Nat)
    (hext : ExtOK S c data ext)
    (h : appendBlock S c nextAlg nextSk data ext dv = some c') : verifyToken S root c' = true := by
  obtain ⟨b, rfl, sk, p, hproof, hnk, hdata, hbext, hver, hp, hsig⟩ := appendBlock_some S c c' nextAlg nextSk data ext dv h
  obtain ⟨hwf, hauth, hch, hpr⟩ := (verifyToken_iff S root c).mp hv
  rw [hproof, verifyProof_secret] at hpr
  refine (verifyToken_iff S root _).mpr ⟨?_, hauth, ?_, ?_⟩
  · -- a block with an external signature gets signature version 1
    simp only [wellFormed, Bool.and_eq_true, List.all_append, List.all_cons, List.all_nil, Bool.and_true] at hwf ⊢
    refine ⟨hwf.1, hwf.2, ?_⟩
    rw [hbext, hver]
    cases ext with
    | none => rfl
    | some e => simp [sigVersion_third_party, wireVersion, Gen.thirdPartySignatureVersion]
  · rw [lastBlock_snoc, verifyChain_snoc, hch, Option.bind_some, if_pos]
    refine (verifyBlock_iff ..).mpr ⟨p, hp, hsig ▸ hS.verifies _ _ _ p hpr, fun e he => ?_⟩
    obtain rfl : ext = some e := hbext.symm.trans he
    simp only [externalPayload, gen_externalV1_eq_spec, hdata, hver, Option.isSome_some, sigVersion_third_party, wireVersion_getD]
    exact hext e rfl
  · rw [lastBlock_snoc, verifyProof_secret]
    exact (hS.tagged _ _ _ hnk).symm ▸ hnk

theorem sealToken_some {S : Scheme} {c c' : Container} (h : sealToken S c = some c') :
    ∃ sk, c.proof = .secret sk ∧
      c' = { c with proof := .sealed (S.sign c.lastBlock.nextKey.alg sk (sealPayload c.lastBlock)) } := by
  unfold sealToken at h
  split at h
  · cases h
  · next sk hproof => exact ⟨sk, hproof, (Option.some.inj h).symm⟩

/-- **Sealing a token that verifies gives a token that verifies.** -/
theorem seal_verifies (S : Scheme) (hS : Correct S) (root : PubKey) (c c' : Container)
    (hv : verifyToken S root c = true) (h : sealToken S c = some c') : verifyToken S root c' = true := by
  obtain ⟨sk, hproof, rfl⟩ := sealToken_some h
  obtain ⟨hwf, hauth, hch, hpr⟩ := (verifyToken_iff S root c).mp hv
  rw [hproof, verifyProof_secret] at hpr
  exact (verifyToken_iff S root _).mpr ⟨hwf, hauth, hch, hS.verifies _ _ _ _ hpr⟩

/-! ## any history of operations -/

inductive TokOp where
  | append (nextAlg : Nat) (nextSk data : Bytes) (ext : Option ExtSig) (datalogVersion : Option Nat)
  | sealOp

def applyOp (S : Scheme) (c : Container) : TokOp → Option Container
  | .append a sk d e dv => appendBlock S c a sk d e dv
  | .sealOp => sealToken S c

/-- the operations a history applies carry external signatures that `append_third_party` accepts -/
def OpOK (S : Scheme) (c : Container) : TokOp → Prop
  | .append _ _ d e _ => ExtOK S c d e
  | .sealOp => True

def runOps (S : Scheme) : Container → List TokOp → Option Container
  | c, [] => some c
  | c, op :: rest =>
    match applyOp S c op with
    | some c' => runOps S c' rest
    | none => none

theorem runOps_cons (S : Scheme) (c : Container) (op : TokOp) (rest : List TokOp) :
    runOps S c (op :: rest) = (applyOp S c op).bind (runOps S · rest) := by
  rw [runOps]; cases applyOp S c op <;> rfl

/-- every operation of the history is acceptable at the point where it is applied -/
def OpsOK (S : Scheme) : Container → List TokOp → Prop
  | _, [] => True
  | c, op :: rest => OpOK S c op ∧ ∀ c', applyOp S c op = some c' → OpsOK S c' rest

/-- **Every token produced by building, attenuating, adding third-party blocks and sealing —
    in any order, any number of times, with any mix of algorithms — verifies under the issuing
    root key.** -/
theorem built_tokens_verify (S : Scheme) (hS : Correct S) (root : PubKey) :
    ∀ (ops : List TokOp) (c c' : Container), verifyToken S root c = true → OpsOK S c ops →
      runOps S c ops = some c' → verifyToken S root c' = true := by
  intro ops
  induction ops with
  | nil => intro c c' hv _ h; exact Option.some.inj h ▸ hv
  | cons op rest ih =>
    intro c c' hv hok h
    obtain ⟨c1, hop, h⟩ := Option.bind_eq_some_iff.1 (runOps_cons S c op rest ▸ h)
    refine ih c1 c' ?_ (hok.2 c1 hop) h
    cases op with
    | append a sk d e dv => exact append_verifies S hS root c c1 hv a sk d e dv hok.1 hop
    | sealOp => exact seal_verifies S hS root c c1 hv hop

/-! ## non-vacuity: a toy scheme that is correct, and a token built with it -/

def toyScheme : Scheme where
  pub := fun alg sk => some ⟨alg, sk.map (· + 1)⟩
  sign := fun _ sk m => sk ++ m
  verify := fun pk m s => s == pk.bytes.map (· - 1) ++ m

theorem toy_correct : Correct toyScheme where
  verifies := by
    rintro alg sk _ m ⟨⟩
    simp [toyScheme, List.map_map, Function.comp_def]
  tagged := by rintro alg sk _ ⟨⟩; rfl

example : ∃ c, newToken toyScheme none 0 [1] 1 [2] [10, 11] 3 = some c ∧ c.blocks = [] := ⟨_, rfl, rfl⟩

/-! ## the wire format round-trips -/

/-- **C02, byte level.** Decoding the protobuf encoding of a container — authority block, any
    number of blocks, third-party signatures, versions, root key id, either kind of proof —
    gives the container back, for every container whose fields fit their length prefixes.
    The decoder takes fields in any order, the last occurrence wins and repeated fields
    accumulate (prost differs on some inputs the encoder never writes: it merges the occurrences
    of a message field); the encoder is the one whose bytes are compared with `to_vec()` on
    every run. -/
theorem wire_round_trip (c : Container) (h : Wire.SmallContainer c) :
    Wire.decContainer (Wire.encContainer c) = some c := Wire.decContainer_enc c h

/-- a three-block token with a third-party block, a version and a sealed proof -/
example :
    Wire.decContainer (Wire.encContainer
      ⟨some 7, ⟨[1, 2], ⟨0, [9]⟩, [3], none, none⟩,
        [⟨[4], ⟨1, [8, 8]⟩, [5], some ⟨⟨0, [6]⟩, [7]⟩, some 1⟩, ⟨[], ⟨0, []⟩, [], none, some 0⟩], .sealed [1, 1]⟩)
      = some ⟨some 7, ⟨[1, 2], ⟨0, [9]⟩, [3], none, none⟩,
        [⟨[4], ⟨1, [8, 8]⟩, [5], some ⟨⟨0, [6]⟩, [7]⟩, some 1⟩, ⟨[], ⟨0, []⟩, [], none, some 0⟩], .sealed [1, 1]⟩ := by
  apply wire_round_trip
  refine ⟨(fun k hk => by cases hk; decide), ?_, ?_, ?_⟩
  · exact ⟨by decide, ⟨by decide, by decide⟩, by decide, (fun e he => by cases he), (fun v hv => by cases hv)⟩
  · intro b hb
    simp only [List.mem_cons, List.mem_nil_iff, or_false] at hb
    rcases hb with rfl | rfl
    · refine ⟨by decide, ⟨by decide, by decide⟩, by decide, ?_, ?_⟩
      · intro e he; cases he; exact ⟨⟨by decide, by decide⟩, by decide⟩
      · intro v hv; cases hv; decide
    · exact ⟨by decide, ⟨by decide, by decide⟩, by decide, (fun e he => by cases he), (fun v hv => by cases hv; decide)⟩
  · show List.length _ < _
    decide

end Biscuit.C02
