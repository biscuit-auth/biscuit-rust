/-
  C09 — untrusted bytes never crash or hang the library.

  What a theorem can carry: the accessors that index with a number taken from outside return
  an error exactly where the index is out of range, and a value everywhere else.
    * `block_access_checked` : `blockAt` succeeds exactly for the indices below the block
      count — for EVERY index, there is no index on which it does anything else;
    * `block_access_value` : and it returns the authority block for 0 and `blocks[i-1]` otherwise;
    * `getSymbol_total`, `getSymbol_gap`, `getSymbol_beyond`, `tempSymbol_beyond` : a symbol id
      resolves exactly when it is a default symbol or an index into the table; the ids between
      the default symbols and the offset 1024, and those beyond the table, are `none` — never an
      index into a shorter list.
  Panics, aborts, stack exhaustion and hangs are runtime behaviour: they are observed by the
  stream `untrusted` (child process, one flushed line per case), not proved.
-/
import BiscuitModel.Model.Untrusted
namespace Biscuit.Untrusted
open Biscuit

theorem blockAt_eq {α : Type} (a : α) (bs : List α) (i : Nat) :
    blockAt a bs i = match (a :: bs)[i]? with | some b => .ok b | none => .error .invalidBlockIndex := by
  unfold blockAt
  cases i with
  | zero => rfl
  | succ j =>
    rw [if_neg (Nat.succ_ne_zero j), List.getElem?_cons_succ, Nat.add_sub_cancel]
    split
    · next h => rw [List.getElem?_eq_none (Nat.le_of_lt_succ h)]
    · rfl

theorem block_access_checked {α : Type} (a : α) (bs : List α) (i : Nat) :
    (∃ b, blockAt a bs i = .ok b) ↔ i < blockCount bs := by
  rw [blockAt_eq, blockCount, Nat.add_comm, ← List.length_cons (a := a)]
  cases h : (a :: bs)[i]? with
  | none => exact ⟨nofun, fun hi => absurd (List.getElem?_eq_none_iff.1 h) (Nat.not_le_of_gt hi)⟩
  | some b => exact ⟨fun _ => (List.getElem?_eq_some_iff.1 h).1, fun _ => ⟨b, rfl⟩⟩

theorem block_access_error {α : Type} (a : α) (bs : List α) (i : Nat) (h : blockCount bs ≤ i) :
    blockAt a bs i = .error .invalidBlockIndex := by
  cases hb : blockAt a bs i with
  | ok b => exact absurd ((block_access_checked a bs i).mp ⟨b, hb⟩) (Nat.not_lt.mpr h)
  | error e => cases e; rfl

theorem block_access_value {α : Type} (a : α) (bs : List α) :
    blockAt a bs 0 = .ok a ∧ ∀ i (h : i < bs.length), blockAt a bs (i + 1) = .ok bs[i] :=
  ⟨rfl, fun i h => by rw [blockAt_eq, List.getElem?_cons_succ, List.getElem?_eq_getElem h]⟩

example : blockAt 0 [1, 2] 2 = .ok 2 ∧ blockAt 0 [1, 2] 3 = .error .invalidBlockIndex := by
  constructor <;> rfl

/-- every id has an answer; it is `some` exactly for the default symbols and the table's own -/
theorem getSymbol_total (t : SymbolTable) (i : Nat) :
    (t.getSymbol i).isSome ↔ i < Gen.defaultSymbols.length ∨ (Gen.symbolOffset ≤ i ∧ i - Gen.symbolOffset < t.symbols.length) := by
  rw [SymbolTable.getSymbol]
  by_cases h : Gen.symbolOffset ≤ i
  · -- a default symbol's id is below the offset: 28 < 1024
    have hd : ¬ i < Gen.defaultSymbols.length := fun hd => Nat.lt_irrefl i (Nat.lt_of_lt_of_le hd (Nat.le_trans (by decide) h))
    rw [if_pos h, isSome_getElem?]
    exact ⟨fun hl => .inr ⟨h, hl⟩, fun hr => hr.elim (absurd · hd) (·.2)⟩
  · rw [if_neg h, isSome_getElem?]
    exact ⟨.inl, fun hr => hr.elim id fun hc => absurd hc.1 h⟩

/-- the ids between the default symbols and the offset are unknown symbols, not an index -/
theorem getSymbol_gap (t : SymbolTable) (i : Nat) (h1 : Gen.defaultSymbols.length ≤ i) (h2 : i < Gen.symbolOffset) :
    t.getSymbol i = none := by
  rw [SymbolTable.getSymbol, if_neg (Nat.not_le.2 h2), List.getElem?_eq_none h1]

theorem getSymbol_beyond (t : SymbolTable) (i : Nat) (h : Gen.symbolOffset + t.symbols.length ≤ i) :
    t.getSymbol i = none := by
  rw [SymbolTable.getSymbol, if_pos (Nat.le_trans (Nat.le_add_right _ _) h), List.getElem?_eq_none (Nat.le_sub_of_add_le' h)]

theorem tempSymbol_beyond (t : TempSyms) (i : Nat) (h : t.offset + t.extra.length ≤ i) : t.getSymbol i = none := by
  rw [TempSyms.getSymbol, if_pos (Nat.le_trans (Nat.le_add_right _ _) h), List.getElem?_eq_none (Nat.le_sub_of_add_le' h)]

example : (SymbolTable.mk ["a".toUTF8.toList]).getSymbol 28 = none ∧ (SymbolTable.mk ["a".toUTF8.toList]).getSymbol 1025 = none
    ∧ ((SymbolTable.mk ["a".toUTF8.toList]).getSymbol 1024).isSome := by
  refine ⟨getSymbol_gap _ _ (by decide) (by decide), getSymbol_beyond _ _ (by decide), ?_⟩
  rw [getSymbol_total]; right; decide

end Biscuit.Untrusted
