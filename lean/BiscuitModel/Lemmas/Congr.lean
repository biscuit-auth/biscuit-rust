/-
  What the verdicts of checks and policies depend on.

  Every verdict is computed from answers `evalQuery syms F kind T blk r`, where the trusted set `T`
  comes from `trustedFromScopes … km`.  So two worlds `(F, km, dflt)` and `(F', km', dflt')` in
  which every query asked gets the same answer give the same verdicts (`evalCheck_congr` …
  `blocksFailed_congr`, nothing assumed of the evaluations), and an error-free query has the same
  answer on two stores that show the same facts to its trusted set (`evalQuery_same`).  C11 uses
  this for two iteration orders of one store, C03 for the stores and key maps of a token with and
  without an appended block.
-/
import BiscuitModel.Props.C04
namespace Biscuit
open Biscuit.C04

/-- two fact lists with the same members (a hash store iterated in two orders) -/
def SameFacts (F F' : List (List Nat × Fact)) : Prop := ∀ x, x ∈ F ↔ x ∈ F'

theorem SameFacts.symm {F F' : List (List Nat × Fact)} (h : SameFacts F F') : SameFacts F' F :=
  fun x => (h x).symm

theorem visible_same {F F' : List (List Nat × Fact)} (h : SameFacts F F') (t : List Nat) :
    SameFacts (visible t F) (visible t F') :=
  fun x => ⟨visible_mono t (fun y => (h y).mp) x, visible_mono t (fun y => (h y).mpr) x⟩

theorem combine_same {F F' : List (List Nat × Fact)} (h : SameFacts F F') (ps : List Predicate) (m : MV)
    (y : List Nat × Bindings) : y ∈ combine F ps m ↔ y ∈ combine F' ps m :=
  ⟨combine_mono fun x => (h x).mp, combine_mono fun x => (h x).mpr⟩

theorem applyRule_same {F F' : List (List Nat × Fact)} (h : SameFacts F F') (syms : SymbolTable) (blk : Nat)
    (r : Rule) (y : Except ExprErr (Option (List Nat × Fact))) :
    y ∈ applyRule syms F blk r ↔ y ∈ applyRule syms F' blk r :=
  ⟨applyRule_mono fun x => (h x).mp, applyRule_mono fun x => (h x).mpr⟩

section Query
variable {syms : SymbolTable} {F F' : List (List Nat × Fact)} {T : List Nat} {r : Rule}

theorem NoErr_same (h : SameFacts (visible T F) (visible T F')) (hn : NoErr syms F T r) : NoErr syms F' T r :=
  fun ob hob e => hn ob ((combine_same h _ _ ob).mpr hob) e

/-- an error-free query is answered by membership in the join, which the order of the store does
    not change -/
theorem evalQuery_same (h : SameFacts (visible T F) (visible T F')) (hn : NoErr syms F T r) {kind : CheckKind}
    {blk : Nat} : evalQuery syms F kind T blk r = evalQuery syms F' kind T blk r := by
  have hf : findMatch syms F T blk r = findMatch syms F' T blk r := by
    rw [findMatch_spec hn, findMatch_spec (NoErr_same h hn), any_congr_mem _ (applyRule_same h syms blk r)]
  cases kind with
  | one => exact hf
  | reject => exact congrArg (Except.map (!·)) hf
  | all =>
    have hc := combine_same h r.body (MV.new (bodyVars r.body))
    simp only [evalQuery, checkMatchAll_spec hn, checkMatchAll_spec (NoErr_same h hn)]
    rw [isEmpty_congr_mem hc, all_congr_mem _ hc]

end Query

section Verdicts
variable {syms : SymbolTable} {F F' : List (List Nat × Fact)} {km km' : KeyMap}

def Agree (syms : SymbolTable) (F : List (List Nat × Fact)) (km : KeyMap) (d : List Nat) (F' : List (List Nat × Fact))
    (km' : KeyMap) (d' : List Nat) (blk : Nat) (kind : CheckKind) (qs : List QRule) : Prop :=
  ∀ q ∈ qs, evalQuery syms F kind (trustedFromScopes q.scopes d blk km) blk q.rule =
    evalQuery syms F' kind (trustedFromScopes q.scopes d' blk km') blk q.rule

theorem evalCheck_go_congr {d d' : List Nat} {blk : Nat} (c : Check) : ∀ (qs : List QRule),
    Agree syms F km d F' km' d' blk c.kind qs →
    evalCheck.go syms F km d blk c qs = evalCheck.go syms F' km' d' blk c qs := by
  intro qs
  induction qs with
  | nil => intro _; rfl
  | cons q rest ih =>
    intro h
    rw [evalCheck.go, evalCheck.go, h q List.mem_cons_self, ih fun x hx => h x (List.mem_cons_of_mem _ hx)]

theorem evalCheck_congr {d d' : List Nat} {blk : Nat} (c : Check) (h : Agree syms F km d F' km' d' blk c.kind c.queries) :
    evalCheck syms F km d blk c = evalCheck syms F' km' d' blk c :=
  evalCheck_go_congr c c.queries h

theorem failedChecks_congr {d d' : List Nat} {blk : Nat} (mk : Nat → FailedCheck) : ∀ (cs : List Check) (i : Nat),
    (∀ c ∈ cs, Agree syms F km d F' km' d' blk c.kind c.queries) →
    failedChecks syms F km d blk mk i cs = failedChecks syms F' km' d' blk mk i cs := by
  intro cs
  induction cs with
  | nil => intro i _; rfl
  | cons c rest ih =>
    intro i h
    rw [failedChecks, failedChecks, evalCheck_congr c (h c List.mem_cons_self),
      ih (i + 1) fun x hx => h x (List.mem_cons_of_mem _ hx)]

theorem firstPolicy_congr {d d' : List Nat} : ∀ (ps : List Policy) (i : Nat),
    (∀ p ∈ ps, Agree syms F km d F' km' d' authorizerId .one p.queries) →
    firstPolicy syms F km d i ps = firstPolicy syms F' km' d' i ps := by
  intro ps
  induction ps with
  | nil => intro i _; rfl
  | cons p rest ih =>
    intro i h
    simp only [firstPolicy, policyMatches_eq_go ⟨.one, []⟩ rfl,
      evalCheck_go_congr ⟨.one, []⟩ p.queries (h p List.mem_cons_self),
      ih (i + 1) fun x hx => h x (List.mem_cons_of_mem _ hx)]

theorem blocksFailed_congr : ∀ (ibs : List (Nat × Block)),
    (∀ ib ∈ ibs, ∀ c ∈ ib.2.checks,
      Agree syms F km (trustedFromScopes ib.2.scopes defaultTrusted ib.1 km) F' km'
        (trustedFromScopes ib.2.scopes defaultTrusted ib.1 km') ib.1 c.kind c.queries) →
    blocksFailed syms F km ibs = blocksFailed syms F' km' ibs := by
  intro ibs
  induction ibs with
  | nil => intro _; rfl
  | cons ib rest ih =>
    intro h
    obtain ⟨i, b⟩ := ib
    rw [blocksFailed, blocksFailed, failedChecks_congr (FailedCheck.block i) b.checks 0 (h (i, b) List.mem_cons_self),
      ih fun x hx => h x (List.mem_cons_of_mem _ hx)]

end Verdicts

/-! ## the same store in two orders -/

theorem CheckNoErr_same {F F' : List (List Nat × Fact)} (h : SameFacts F F') {syms : SymbolTable} {km : KeyMap}
    {dflt : List Nat} {blk : Nat} {qs : List QRule} (hn : CheckNoErr syms F km dflt blk qs) :
    CheckNoErr syms F' km dflt blk qs :=
  fun q hq => NoErr_same (visible_same h _) (hn q hq)

/-- every check and policy of the case evaluates without expression error on `F` -/
structure AllNoErr (syms : SymbolTable) (F : List (List Nat × Fact)) (blocks : List Block) (az : AuthorizerData) : Prop where
  azChecks : ∀ c ∈ az.checks,
    CheckNoErr syms F (keyMap blocks) (authorizerTrusted az (keyMap blocks)) authorizerId c.queries
  policies : ∀ p ∈ az.policies,
    CheckNoErr syms F (keyMap blocks) (authorizerTrusted az (keyMap blocks)) authorizerId p.queries
  blockChecks : ∀ ib ∈ enumFrom 0 blocks, ∀ c ∈ ib.2.checks,
    CheckNoErr syms F (keyMap blocks) (trustedFromScopes ib.2.scopes defaultTrusted ib.1 (keyMap blocks)) ib.1 c.queries

theorem AllNoErr_same {F F' : List (List Nat × Fact)} (h : SameFacts F F') (syms : SymbolTable)
    (blocks : List Block) (az : AuthorizerData) (hn : AllNoErr syms F blocks az) : AllNoErr syms F' blocks az :=
  ⟨fun c hc => CheckNoErr_same h (hn.azChecks c hc),
   fun p hp => CheckNoErr_same h (hn.policies p hp),
   fun ib hib c hc => CheckNoErr_same h (hn.blockChecks ib hib c hc)⟩

/-- **The decision depends only on the set of facts** (for error-free evaluations): two
    iteration orders of the fact store give the same result. -/
theorem decide_same {F F' : List (List Nat × Fact)} (h : SameFacts F F') (syms : SymbolTable)
    (blocks : List Block) (az : AuthorizerData) (hn : AllNoErr syms F blocks az) :
    decide syms F blocks az = decide syms F' blocks az := by
  have hv := visible_same h
  unfold decide
  dsimp only
  rw [failedChecks_congr _ az.checks 0 fun c hc q hq => evalQuery_same (hv _) (hn.azChecks c hc q hq),
    blocksFailed_congr _ fun ib hib c hc q hq =>
      evalQuery_same (hv _) (hn.blockChecks ib (List.mem_of_mem_take hib) c hc q hq),
    firstPolicy_congr az.policies 0 fun p hp q hq => evalQuery_same (hv _) (hn.policies p hp q hq),
    blocksFailed_congr _ fun ib hib c hc q hq =>
      evalQuery_same (hv _) (hn.blockChecks ib (List.mem_of_mem_drop hib) c hc q hq)]

/-! ## the verdict of a check without expression errors, by kind -/

def checkSpec (syms : SymbolTable) (F : List (List Nat × Fact)) (km : KeyMap) (dflt : List Nat) (blk : Nat) (c : Check) : Bool :=
  match c.kind with
  | .one => c.queries.any (qMatches syms F km dflt blk)
  | .all => c.queries.any (qHoldsForAll syms F km dflt blk)
  | .reject => c.queries.all fun q => !qMatches syms F km dflt blk q

theorem evalCheck_spec (syms : SymbolTable) (F : List (List Nat × Fact)) (km : KeyMap) (dflt : List Nat) (blk : Nat)
    (c : Check) (h : CheckNoErr syms F km dflt blk c.queries) :
    evalCheck syms F km dflt blk c = .ok (checkSpec syms F km dflt blk c) := by
  unfold checkSpec
  cases hk : c.kind with
  | one => exact check_one_spec syms F km dflt blk c hk h
  | all => exact check_all_spec syms F km dflt blk c hk h
  | reject => exact check_reject_spec syms F km dflt blk c hk h

end Biscuit
