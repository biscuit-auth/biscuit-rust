/-
  Interning only appends to the tables and keeps them free of duplicates and of default
  symbols.  Used by C12 (reload reproduces the in-memory tables) and C13.
-/
import BiscuitModel.Model.TokenSyms
import BiscuitModel.Lemmas.List
namespace Biscuit

theorem indexOf_eq_idxOf? (s : Str) (l : List Str) : indexOf s l = l.idxOf? s := by
  induction l with
  | nil => rfl
  | cons x xs ih => simp [indexOf, List.idxOf?_cons, ih]

theorem keyIndex_eq_idxOf? (k : Nat) (l : List Nat) : keyIndex k l = l.idxOf? k := by
  induction l with
  | nil => rfl
  | cons x xs ih => simp [keyIndex, List.idxOf?_cons, ih]

theorem indexOf_eq_none {s : Str} {l : List Str} : indexOf s l = none ↔ s ∉ l := by
  rw [indexOf_eq_idxOf?, List.idxOf?_eq_none_iff]

theorem keyIndex_eq_none {k : Nat} {l : List Nat} : keyIndex k l = none ↔ k ∉ l := by
  rw [keyIndex_eq_idxOf?, List.idxOf?_eq_none_iff]

theorem getElem?_of_indexOf {s : Str} {l : List Str} {i : Nat} (h : indexOf s l = some i) : l[i]? = some s := by
  rw [indexOf_eq_idxOf?, List.idxOf?_eq_some_iff] at h
  obtain ⟨hi, e, _⟩ := h
  rw [List.getElem?_eq_getElem hi, e]

theorem SymbolTable.insert_fst (t : SymbolTable) (s : Str) :
    (t.insert s).1 = if indexOf s Gen.defaultSymbols = none ∧ s ∉ t.symbols then ⟨t.symbols ++ [s]⟩ else t := by
  simp only [← indexOf_eq_none]
  unfold SymbolTable.insert
  split
  · simp [*]
  · split <;> simp [*]

theorem internKey_fst (t : ITable) (k : Nat) :
    (internKey t k).1 = if k ∉ t.keys then { t with keys := t.keys ++ [k] } else t := by
  simp only [← keyIndex_eq_none]
  unfold internKey
  split <;> simp [*]

structure WFt (t : ITable) : Prop where
  noDefault : ∀ s ∈ t.syms.symbols, indexOf s Gen.defaultSymbols = none
  symsNodup : t.syms.symbols.Nodup
  keysNodup : t.keys.Nodup

theorem wf_empty : WFt ITable.empty :=
  ⟨fun s h => by simp [ITable.empty] at h, List.nodup_nil, List.nodup_nil⟩

def Ext (t t' : ITable) : Prop :=
  ∃ ns nk, t'.syms.symbols = t.syms.symbols ++ ns ∧ t'.keys = t.keys ++ nk

def Good (t t' : ITable) : Prop := Ext t t' ∧ (WFt t → WFt t')

theorem Good.refl (t : ITable) : Good t t := ⟨⟨[], [], (List.append_nil _).symm, (List.append_nil _).symm⟩, id⟩

theorem Good.trans {a b c : ITable} (h1 : Good a b) (h2 : Good b c) : Good a c := by
  obtain ⟨⟨n1, k1, e1, f1⟩, w1⟩ := h1
  obtain ⟨⟨n2, k2, e2, f2⟩, w2⟩ := h2
  exact ⟨⟨n1 ++ n2, k1 ++ k2, by rw [e2, e1, List.append_assoc], by rw [f2, f1, List.append_assoc]⟩, fun h => w2 (w1 h)⟩

theorem internSym_good (pool : List Str) (t : ITable) (i : Nat) : Good t (internSym pool t i).1 := by
  show Good t { t with syms := (t.syms.insert (pool.getD i [])).1 }
  rw [SymbolTable.insert_fst]
  split
  · next h =>
    refine ⟨⟨[_], [], rfl, (List.append_nil _).symm⟩,
      fun hw => ⟨?_, nodup_snoc.2 ⟨h.2, hw.symsNodup⟩, hw.keysNodup⟩⟩
    exact List.forall_mem_append.2 ⟨hw.noDefault, fun s hs => List.mem_singleton.1 hs ▸ h.1⟩
  · exact Good.refl t

theorem internKey_good (t : ITable) (k : Nat) : Good t (internKey t k).1 := by
  rw [internKey_fst]
  split
  · next h =>
    exact ⟨⟨[], [k], (List.append_nil _).symm, rfl⟩,
      fun hw => ⟨hw.noDefault, hw.symsNodup, nodup_snoc.2 ⟨h, hw.keysNodup⟩⟩⟩
  · exact Good.refl t

mutual
theorem internTerm_good (pool : List Str) : ∀ (x : Term) (t : ITable), Good t (internTerm pool t x).1
  | .var v => fun t => internSym_good pool t v
  | .str s => fun t => internSym_good pool t s
  | .set xs => fun t => internTerms_good pool xs t
  | .arr xs => fun t => internTerms_good pool xs t
  | .map kvs => fun t => internKVs_good pool kvs t
  | .int _ | .date _ | .bytes _ | .bool _ | .null => Good.refl
theorem internTerms_good (pool : List Str) : ∀ (xs : List Term) (t : ITable), Good t (internTerms pool t xs).1
  | [] => Good.refl
  | x :: xs => fun t => (internTerm_good pool x t).trans (internTerms_good pool xs _)
theorem internKVs_good (pool : List Str) : ∀ (kvs : List (MapKey × Term)) (t : ITable), Good t (internKVs pool t kvs).1
  | [] => Good.refl
  | (.int _, x) :: rest => fun t => (internTerm_good pool x t).trans (internKVs_good pool rest _)
  | (.str s, x) :: rest => fun t =>
    (internSym_good pool t s).trans ((internTerm_good pool x _).trans (internKVs_good pool rest _))
end

theorem internNats_good (pool : List Str) : ∀ (xs : List Nat) (t : ITable), Good t (internNats pool t xs).1
  | [] => Good.refl
  | x :: xs => fun t => (internSym_good pool t x).trans (internNats_good pool xs _)

mutual
theorem internOp_good (pool : List Str) : ∀ (o : Op) (t : ITable), Good t (internOp pool t o).1
  | .value x => fun t => internTerm_good pool x t
  | .closure ps ops => fun t => (internNats_good pool ps t).trans (internOps_good pool ops _)
  -- an operator interns a name only if it is an `ffi` call; otherwise the catch-all equation applies
  | .unary u => fun t => by
    by_cases h : ∃ n, u = .ffi n
    · obtain ⟨n, rfl⟩ := h
      exact internSym_good pool t n
    · rw [internOp]
      · exact Good.refl t
      · exact fun n e => h ⟨n, e⟩
  | .binary b => fun t => by
    by_cases h : ∃ n, b = .ffi n
    · obtain ⟨n, rfl⟩ := h
      exact internSym_good pool t n
    · rw [internOp]
      · exact Good.refl t
      · exact fun n e => h ⟨n, e⟩
theorem internOps_good (pool : List Str) : ∀ (os : List Op) (t : ITable), Good t (internOps pool t os).1
  | [] => Good.refl
  | o :: os => fun t => (internOp_good pool o t).trans (internOps_good pool os _)
end

theorem internList_good {α : Type} {f : ITable → α → ITable × α} (hf : ∀ t x, Good t (f t x).1) :
    ∀ (xs : List α) (t : ITable), Good t (internList f t xs).1
  | [] => Good.refl
  | x :: xs => fun t => (hf t x).trans (internList_good hf xs _)

theorem internPred_good (pool : List Str) (t : ITable) (p : Predicate) : Good t (internPred pool t p).1 :=
  (internSym_good pool t p.name).trans (internTerms_good pool p.terms _)

theorem internScope_good (t : ITable) : ∀ s : Scope, Good t (internScope t s).1
  | .publicKey k => internKey_good t k
  | .authority | .previous => Good.refl t

theorem internQRule_good (pool : List Str) (t : ITable) (q : QRule) : Good t (internQRule pool t q).1 :=
  (internPred_good pool t q.rule.head).trans
    ((internList_good (internPred_good pool) q.rule.body _).trans
      ((internList_good (fun t x => internOps_good pool x t) q.rule.exprs _).trans
        (internList_good internScope_good q.scopes _)))

theorem internCheck_good (pool : List Str) (t : ITable) (c : Check) : Good t (internCheck pool t c).1 :=
  internList_good (internQRule_good pool) c.queries t

/-- **Building a block against a table only appends to it** and keeps it well-formed. -/
theorem internBlockBuild_good (pool : List Str) (t : ITable) (b : Block) : Good t (internBlockBuild pool t b).1 :=
  (internList_good (internPred_good pool) b.facts t).trans
    ((internList_good (internQRule_good pool) b.rules _).trans
      ((internList_good (internCheck_good pool) b.checks _).trans
        (internList_good internScope_good b.scopes _)))

end Biscuit
