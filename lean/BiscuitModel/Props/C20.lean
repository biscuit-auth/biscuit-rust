/-
  C20 — parameters are data, never code.

  The specification of binding is the relation `Inst σ t t'`: `t'` is `t` with every parameter
  that `σ` binds replaced, at its position, by the bound term, and nothing else changed.
    * `substTerm_inst`, `inst_functional` : the substitution the builders perform is that
      relation, and the relation determines its result — whatever the bound values contain;
    * `subst_closed` : when every parameter of a term is bound to a parameter-free value (a
      key position to an integer or a string), no parameter is left, at any depth — so the
      conversion of a fully bound item meets no parameter (`rule_apply_closed` for whole rules
      with expressions, closures and scopes);
    * `missing_nil_iff`, `missing_complete` : validation passes exactly when every declared
      name has a value, and reports exactly the names that have none;
    * `set_unknown_reported`, `set_lenient_unknown_ignored`, `set_known` : the strict setter
      reports a name the item does not declare and changes nothing; a known name gets exactly
      that value and no other name is touched;
    * `bound_string_is_one_literal` : C14's string theorem restated (no binding occurs in it): any
      string, printed as a literal, is read back as that one string.
-/
import BiscuitModel.Model.Params
import BiscuitModel.Props.C14
import BiscuitModel.Lemmas.List
namespace Biscuit.Params
open Biscuit.Printer

/-! ## the specification -/

inductive InstK (σ : Env) : SKey → SKey → Prop where
  | int : InstK σ (.int i) (.int i)
  | str : InstK σ (.str s) (.str s)
  | boundInt : lookup σ n = some (.int i) → InstK σ (.param n) (.int i)
  | boundStr : lookup σ n = some (.str s) → InstK σ (.param n) (.str s)
  | kept : (∀ i, lookup σ n ≠ some (.int i)) → (∀ s, lookup σ n ≠ some (.str s)) → InstK σ (.param n) (.param n)

mutual
inductive Inst (σ : Env) : STerm → STerm → Prop where
  | bound : lookup σ n = some v → Inst σ (.param n) v
  | unbound : lookup σ n = none → Inst σ (.param n) (.param n)
  | var : Inst σ (.var n) (.var n)
  | int : Inst σ (.int i) (.int i)
  | str : Inst σ (.str s) (.str s)
  | date : Inst σ (.date d) (.date d)
  | bytes : Inst σ (.bytes b) (.bytes b)
  | bool : Inst σ (.bool b) (.bool b)
  | null : Inst σ .null .null
  | set : InstL σ xs ys → Inst σ (.set xs) (.set ys)
  | arr : InstL σ xs ys → Inst σ (.arr xs) (.arr ys)
  | map : InstKV σ kvs kvs' → Inst σ (.map kvs) (.map kvs')
inductive InstL (σ : Env) : List STerm → List STerm → Prop where
  | nil : InstL σ [] []
  | cons : Inst σ x y → InstL σ xs ys → InstL σ (x :: xs) (y :: ys)
inductive InstKV (σ : Env) : List (SKey × STerm) → List (SKey × STerm) → Prop where
  | nil : InstKV σ [] []
  | cons : InstK σ k k' → Inst σ t t' → InstKV σ kvs kvs' → InstKV σ ((k, t) :: kvs) ((k', t') :: kvs')
end

theorem substKey_inst (σ : Env) : (k : SKey) → InstK σ k (substKey σ k)
  | .int _ => .int
  | .str _ => .str
  | .param n => by
    simp only [substKey]
    split
    · next h => exact .boundInt h
    · next h => exact .boundStr h
    · next h1 h2 => exact .kept h1 h2

mutual
/-- what the builders compute is an instance of the specification -/
theorem substTerm_inst (σ : Env) : (t : STerm) → Inst σ t (substTerm σ t)
  | .param n => by
    unfold substTerm
    cases h : lookup σ n with
    | none => exact .unbound h
    | some v => exact .bound h
  | .var _ => .var
  | .int _ => .int
  | .str _ => .str
  | .date _ => .date
  | .bytes _ => .bytes
  | .bool _ => .bool
  | .null => .null
  | .set xs => .set (substTerms_inst σ xs)
  | .arr xs => .arr (substTerms_inst σ xs)
  | .map kvs => .map (substKVs_inst σ kvs)
theorem substTerms_inst (σ : Env) : (ts : List STerm) → InstL σ ts (substTerms σ ts)
  | [] => .nil
  | t :: ts => .cons (substTerm_inst σ t) (substTerms_inst σ ts)
theorem substKVs_inst (σ : Env) : (kvs : List (SKey × STerm)) → InstKV σ kvs (substKVs σ kvs)
  | [] => .nil
  | (k, t) :: kvs => .cons (substKey_inst σ k) (substTerm_inst σ t) (substKVs_inst σ kvs)
end

theorem instK_functional {σ : Env} {k a : SKey} (h : InstK σ k a) : a = substKey σ k := by
  cases h with
  | int | str => rfl
  | boundInt h | boundStr h => rw [substKey, h]
  | kept h1 h2 =>
    rw [substKey]
    split
    · next i h => exact absurd h (h1 i)
    · next s h => exact absurd h (h2 s)
    · rfl

/-- the specification leaves no freedom: any instance is the computed one. Induction on the
    derivation, for the three relations at once: the recursor of the mutual family, its cases in
    the order of the constructors (`bound`, `unbound`, the seven leaves, `set`, `arr`, `map`, then
    `nil` and `cons` of `InstL` and of `InstKV`). -/
theorem inst_functional {σ : Env} : {t a : STerm} → Inst σ t a → a = substTerm σ t :=
  @Inst.rec σ (fun t a _ => a = substTerm σ t) (fun ts as _ => as = substTerms σ ts)
    (fun kvs as _ => as = substKVs σ kvs)
    (fun h => by rw [substTerm, h]; rfl) (fun h => by rw [substTerm, h]; rfl) rfl rfl rfl rfl rfl rfl rfl
    (fun _ ih => congrArg STerm.set ih) (fun _ ih => congrArg STerm.arr ih) (fun _ ih => congrArg STerm.map ih)
    rfl (fun _ _ ih ihs => by rw [substTerms, ← ih, ← ihs])
    rfl (fun hk _ _ ih ihs => by rw [substKVs, ← instK_functional hk, ← ih, ← ihs])

theorem instL_functional {σ : Env} : {ts as : List STerm} → InstL σ ts as → as = substTerms σ ts :=
  fun h => STerm.set.inj (inst_functional (.set h))

theorem instKV_functional {σ : Env} : {kvs as : List (SKey × STerm)} → InstKV σ kvs as → as = substKVs σ kvs :=
  fun h => STerm.map.inj (inst_functional (.map h))

/-- a value is placed as it is: a parameter bound to `v` becomes exactly `v` -/
theorem bound_param_is_value (σ : Env) (n : String) (v : STerm) (h : lookup σ n = some v) :
    substTerm σ (.param n) = v := by simp [substTerm, h]

/-- `string_lit_round_trip` (C14) restated; no parameter or substitution occurs in the statement -/
theorem bound_string_is_one_literal (s rest : List Char) :
    parseString (printStringChars s ++ rest) = some (s, rest) := string_lit_round_trip s rest

/-! ## full binding leaves no parameter -/

def IsKeyValue : STerm → Prop
  | .int _ => True
  | .str _ => True
  | _ => False

def Closes (σ : Env) (ps ks : List String) : Prop :=
  (∀ n ∈ ps, ∃ v, lookup σ n = some v ∧ paramsTerm v = []) ∧
  (∀ n ∈ ks, ∃ v, lookup σ n = some v ∧ IsKeyValue v)

theorem substKey_closed (σ : Env) (k : SKey)
    (hk : ∀ n ∈ (match k with | .param n => [n] | _ => []), ∃ v, lookup σ n = some v ∧ IsKeyValue v) :
    (match substKey σ k with | .param n => [n] | _ => ([] : List String)) = [] := by
  cases k with
  | int i => rfl
  | str s => rfl
  | param n =>
    obtain ⟨v, hv, hkv⟩ := hk n (List.mem_singleton_self n)
    rw [substKey, hv]
    cases v with
    | int _ | str _ => rfl
    | _ => exact False.elim hkv

mutual
theorem subst_closed (σ : Env) : (t : STerm) →
    (∀ n ∈ paramsTerm t, ∃ v, lookup σ n = some v ∧ paramsTerm v = []) →
    (∀ n ∈ keyParamsTerm t, ∃ v, lookup σ n = some v ∧ IsKeyValue v) →
    paramsTerm (substTerm σ t) = []
  | .param n => fun hp _ => by
    obtain ⟨v, hv, hg⟩ := hp n (List.mem_singleton_self n)
    rw [substTerm, hv]
    exact hg
  | .var _ | .int _ | .str _ | .date _ | .bytes _ | .bool _ | .null => fun _ _ => rfl
  | .set xs | .arr xs => substTerms_closed σ xs
  | .map kvs => substKVs_closed σ kvs
theorem substTerms_closed (σ : Env) : (ts : List STerm) →
    (∀ n ∈ paramsTerms ts, ∃ v, lookup σ n = some v ∧ paramsTerm v = []) →
    (∀ n ∈ keyParamsTerms ts, ∃ v, lookup σ n = some v ∧ IsKeyValue v) →
    paramsTerms (substTerms σ ts) = []
  | [] => fun _ _ => rfl
  | t :: ts => fun hp hk =>
    have hp := List.forall_mem_append.1 hp
    have hk := List.forall_mem_append.1 hk
    List.append_eq_nil_iff.2 ⟨subst_closed σ t hp.1 hk.1, substTerms_closed σ ts hp.2 hk.2⟩
theorem substKVs_closed (σ : Env) : (kvs : List (SKey × STerm)) →
    (∀ n ∈ paramsKVs kvs, ∃ v, lookup σ n = some v ∧ paramsTerm v = []) →
    (∀ n ∈ keyParamsKVs kvs, ∃ v, lookup σ n = some v ∧ IsKeyValue v) →
    paramsKVs (substKVs σ kvs) = []
  | [] => fun _ _ => rfl
  | (k, t) :: kvs => fun hp hk =>
    have hp := List.forall_mem_append.1 hp
    have hk := List.forall_mem_append.1 hk
    have hkt := List.forall_mem_append.1 hk.1
    List.append_eq_nil_iff.2 ⟨List.append_eq_nil_iff.2
      ⟨substKey_closed σ k hkt.1, subst_closed σ t (List.forall_mem_append.1 hp.1).2 hkt.2⟩,
      substKVs_closed σ kvs hp.2 hk.2⟩
end

mutual
theorem substOp_closed (σ : Env) : (op : POp) →
    (∀ n ∈ paramsOp op, ∃ v, lookup σ n = some v ∧ paramsTerm v = []) →
    (∀ n ∈ keyParamsOp op, ∃ v, lookup σ n = some v ∧ IsKeyValue v) →
    paramsOp (substOp σ op) = []
  | .val t => subst_closed σ t
  | .clo _ body => substOps_closed σ body
  | .un _ | .bin _ => fun _ _ => rfl
theorem substOps_closed (σ : Env) : (ops : List POp) →
    (∀ n ∈ paramsOps ops, ∃ v, lookup σ n = some v ∧ paramsTerm v = []) →
    (∀ n ∈ keyParamsOps ops, ∃ v, lookup σ n = some v ∧ IsKeyValue v) →
    paramsOps (substOps σ ops) = []
  | [] => fun _ _ => rfl
  | op :: k => fun hp hk =>
    have hp := List.forall_mem_append.1 hp
    have hk := List.forall_mem_append.1 hk
    List.append_eq_nil_iff.2 ⟨substOp_closed σ op hp.1 hk.1, substOps_closed σ k hp.2 hk.2⟩
end

/-! ## setters and validation -/

theorem set_unknown_reported (it : Item) (n : String) (v : STerm) (h : (declaredRule it.rule).contains n = false) :
    it.set n v = (it, .unused n) :=
  if_neg (Bool.eq_false_iff.1 h)

theorem set_lenient_unknown_ignored (it : Item) (n : String) (v : STerm)
    (h : (declaredRule it.rule).contains n = false) : it.setLenient n v = (it, .ok) :=
  if_neg (Bool.eq_false_iff.1 h)

theorem set_scope_unknown_reported (it : Item) (n k : String) (h : (declaredScopes it.rule).contains n = false) :
    it.setScope n k = (it, .unused n) :=
  if_neg (Bool.eq_false_iff.1 h)

/-- a declared name gets exactly that value; every other name keeps what it had; the item's
    own structure is not touched by a setter -/
theorem set_known (it : Item) (n : String) (v : STerm) (h : (declaredRule it.rule).contains n = true) :
    (it.set n v).2 = .ok ∧ lookup (it.set n v).1.env n = some v
      ∧ (∀ m, m ≠ n → lookup (it.set n v).1.env m = lookup it.env m)
      ∧ (it.set n v).1.rule = it.rule := by
  unfold Item.set; rw [if_pos h]
  refine ⟨rfl, by simp [lookup], fun m hm => ?_, rfl⟩
  simp [lookup, Ne.symm hm]

theorem mem_filter_isNone {σ : Env} {ds : List String} {n : String} :
    n ∈ ds.filter (fun n => (lookup σ n).isNone) ↔ n ∈ ds ∧ lookup σ n = none := by
  simp only [List.mem_filter, Option.isNone_iff_eq_none]

/-- validation reports exactly the declared names without a value -/
theorem missing_complete (it : Item) (n : String) :
    n ∈ it.missing ↔ (n ∈ declaredRule it.rule ∧ lookup it.env n = none)
      ∨ (n ∈ declaredScopes it.rule ∧ lookupKey it.keys n = none) := by
  simp only [Item.missing, List.mem_append, List.mem_filter, Option.isNone_iff_eq_none]

theorem missing_nil_iff (it : Item) :
    it.missing = [] ↔ (∀ n ∈ declaredRule it.rule, ∃ v, lookup it.env n = some v)
      ∧ (∀ n ∈ declaredScopes it.rule, ∃ k, lookupKey it.keys n = some k) := by
  simp only [Item.missing, List.append_eq_nil_iff, List.filter_eq_nil_iff, Option.isNone_iff_eq_none,
    ← Option.ne_none_iff_exists', ne_eq]

/-! ## whole rules -/

theorem mem_dedup (xs : List String) (n : String) : n ∈ dedup xs ↔ n ∈ xs :=
  (mem_foldl_insert (fun _ _ _ => mem_snoc_unless_contains) xs []).trans (or_iff_right List.not_mem_nil)

theorem dedup_eq_nil {xs : List String} : dedup xs = [] ↔ xs = [] := by
  simp only [List.eq_nil_iff_forall_not_mem, mem_dedup]

/-- C20 for a whole rule: once every declared parameter has a parameter-free value (key
    positions an integer or a string) and every scope parameter a key, the substituted rule
    has no parameter left anywhere — head, body, expressions, closure bodies, scopes — so its
    conversion meets none -/
theorem rule_apply_closed (it : Item)
    (hb : ∀ n ∈ declaredRule it.rule, ∃ v, lookup it.env n = some v ∧ paramsTerm v = [])
    (hk : ∀ n ∈ keyParamsRule it.rule, ∃ v, lookup it.env n = some v ∧ IsKeyValue v)
    (hs : ∀ n ∈ declaredScopes it.rule, ∃ k, lookupKey it.keys n = some k) :
    residualRule it.apply = [] := by
  -- the hypotheses, part by part: head, each body predicate, each expression
  simp only [declaredRule, keyParamsRule, mem_dedup, List.forall_mem_append, List.forall_mem_flatten,
    List.forall_mem_map] at hb hk
  simp only [residualRule, declaredRule, declaredScopes, Item.apply, substRule, substPred, dedup_eq_nil,
    List.append_eq_nil_iff, List.flatten_eq_nil_iff, List.forall_mem_map, List.filterMap_eq_nil_iff]
  refine ⟨⟨⟨substTerms_closed _ _ hb.1.1 hk.1.1, fun p hp => substTerms_closed _ _ (hb.1.2 p hp) (hk.1.2 p hp)⟩,
    fun ops ho => substOps_closed _ _ (hb.2 ops ho) (hk.2 ops ho)⟩, fun s hs0 => ?_⟩
  cases s with
  | param m =>
    obtain ⟨k, hk'⟩ := hs m ((mem_dedup _ m).2 (List.mem_filterMap.2 ⟨_, hs0, rfl⟩))
    simp [substScope, hk']
  | _ => rfl

/-! non-vacuity: a rule with a parameter in a nested key and one in a closure, fully bound -/
example :
    let r : SRule := { head := ⟨"h", [.arr [.param "p"]]⟩, body := [⟨"f", [.map [(.param "k", .param "p")]]⟩],
                       exprs := [[.val (.var "x"), .clo ["y"] [.val (.set [.param "p"])], .bin .any]], scopes := [.param "s"] }
    let it : Item := { rule := r }
    let it := (it.set "p" (.str "\"); allow if true; //")).1
    let it := (it.set "k" (.int 1)).1
    let it := (it.setScope "s" "ed25519/00").1
    it.missing = [] ∧ residualRule it.apply = [] := by decide +kernel

end Biscuit.Params
