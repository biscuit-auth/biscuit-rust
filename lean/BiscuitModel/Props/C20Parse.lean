/-
  C20 ∘ C14 — a bound parameter stays data in the printed text.

  `bound_fact_reads_back`: take any fact with parameters, bind them to any values, print the
  result.  If the result is a fact of the grammar (any string at all is allowed as a value:
  `wfT _ (.str s) = true` for every `s`), then the parser reads the printed text back as
  exactly that fact — the values at the positions of the parameters, nothing else — and
  leaves whatever followed untouched.  No value can close the fact early, add a term, or
  start a new statement.
-/
import BiscuitModel.Props.C20
import BiscuitModel.Props.C14Terms
namespace Biscuit.C20
open Biscuit.Printer Biscuit.Params Biscuit.TermParser

/-- **Parameters are data, never code (facts).** -/
theorem bound_fact_reads_back {dateP} (hd : DateShape dateP) (σ : Env) (p : SPred) (rest : List Char)
    (hwf : wfPred dateP (substPred σ p) = true) :
    parseFactInner dateP ((printPred (substPred σ p)).toList ++ rest) = .ok (substPred σ p) rest :=
  fact_round_trip hd (substPred σ p) rest hwf

/-- every string is a value of the grammar, so the theorem applies to every string binding -/
theorem any_string_is_a_value {dateP} (ctx : Ctx) (s : String) : wfT dateP ctx (.str s) = true := by
  cases ctx <;> rfl

/-- a string that tries to close the fact and start a policy is read back as that string -/
example : parseFactInner (fun _ => none)
    ((printPred (substPred [("name", .str "x\"); allow if true; //")] ⟨"user", [.param "name"]⟩)).toList ++ [';'])
      = .ok ⟨"user", [.str "x\"); allow if true; //"]⟩ [';'] :=
  bound_fact_reads_back dateShape_none _ _ _ (by decide)

end Biscuit.C20
