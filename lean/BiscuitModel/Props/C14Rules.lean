/-
  C14 — rule bodies, rules, checks and policies: the parsers invert the printer.

  Bottom up, each with the text that may follow it (`ElemEnd`, `ScopesEnd`, `BodyEnd`, `ItemEnd`); an element of a body is
  a predicate or an expression, which `notPred_gram` shows is never taken for a predicate.  The second half shows that the
  texts `bodyC`, … are what the printer model writes.
-/
import BiscuitModel.Model.RuleParser
import BiscuitModel.Props.C14Expr
namespace Biscuit.RuleParser
open Biscuit.Printer Biscuit.TermParser Biscuit.ExprParser

/-! ## predicates (variables allowed) -/

def wfVs (dateP : List Char → Option Nat) : List STerm → Bool
  | [] => true
  | t :: ts => wfV dateP t && wfVs dateP ts

def needVs : List STerm → Nat
  | [] => 2
  | t :: ts => max (needT t + 1) (needVs ts) + 1

def wfPredAny (dateP : List Char → Option Nat) (p : SPred) : Bool :=
  validNameL p.name.toList && !p.terms.isEmpty && wfVs dateP p.terms

theorem wfVs_of_wfL {dateP} (ts : List STerm) : wfL dateP .fact ts = true → wfVs dateP ts = true := by
  induction ts with
  | nil => exact fun _ => rfl
  | cons t ts ih =>
    intro h
    simp only [wfL, Bool.and_eq_true] at h
    simp only [wfVs, Bool.and_eq_true]
    exact ⟨wfV_of_wfT t h.1, ih h.2⟩

theorem wfPredAny_name {dateP} {p : SPred} (hw : wfPredAny dateP p = true) : validNameL p.name.toList = true := by
  simp only [wfPredAny, Bool.and_eq_true] at hw
  exact hw.1.1

theorem wfPredAny_of_wfPred {dateP} (p : SPred) (h : wfPred dateP p = true) : wfPredAny dateP p = true := by
  simp only [wfPred, Bool.and_eq_true] at h
  simp only [wfPredAny, Bool.and_eq_true]
  exact ⟨h.1, wfVs_of_wfL _ h.2⟩

theorem needVs_le_needL : ∀ ts : List STerm, needVs ts ≤ needL ts + 2 := by
  intro ts
  induction ts with
  | nil => simp only [needVs, needL]; decide
  | cons t ts ih =>
    simp only [needVs, needL]
    exact Nat.succ_le_succ (Nat.max_le.mpr ⟨Nat.add_le_add (Nat.le_max_left _ _) (by decide),
      Nat.le_trans ih (Nat.add_le_add_right (Nat.le_max_right _ _) 2)⟩)

theorem anyTail_rt {dateP} (hd : DateShape dateP) : ∀ (ts : List STerm) (fuel : Nat) (rest : List Char),
    wfVs dateP ts = true → Close rest → needVs ts ≤ fuel → pAnyTail dateP fuel (tailC ts ++ rest) = .ok ts rest := by
  intro ts
  induction ts with
  | nil =>
    intro fuel rest _ hc hf
    obtain ⟨n, rfl⟩ := fuel_pos hf
    -- what the arm `| _ => .ok [] s` asks for; `simp` finds it in the context (so in the other loops below)
    have hc := ne_cons_of_head (close_nocomma hc)
    simp only [tailC, List.nil_append, pAnyTail]
  | cons t ts ih =>
    intro fuel rest hw hc hf
    obtain ⟨n, rfl, h1, h2⟩ := fuel_cons hf
    simp only [wfVs, Bool.and_eq_true] at hw
    have ht := pTermAny_rt hd t (tailC ts ++ rest) n hw.1 ((cont_tail ts rest hc).ends.endsForV t) h1
    have hts := ih n rest hw.2 hc h2
    simp only [tailC, List.cons_append, List.append_assoc, pAnyTail, space0_comma,
      pTermAny_blank, ht, hts]

theorem anyTerms_rt {dateP} (hd : DateShape dateP) (ts : List STerm) (fuel : Nat) (rest : List Char)
    (hw : wfVs dateP ts = true) (hne : ts ≠ []) (hc : Close rest) (hf : needVs ts ≤ fuel) :
    pAnyTerms dateP fuel (termsC ts ++ rest) = .ok ts rest := by
  cases ts with
  | nil => exact absurd rfl hne
  | cons t ts =>
    obtain ⟨n, rfl, h1, h2⟩ := fuel_cons hf
    simp only [wfVs, Bool.and_eq_true] at hw
    have ht := pTermAny_rt hd t (tailC ts ++ rest) (n + 1) hw.1 ((cont_tail ts rest hc).ends.endsForV t)
      (Nat.le_succ_of_le h1)
    have hts := anyTail_rt hd ts (n + 1) rest hw.2 hc (Nat.le_succ_of_le h2)
    simp only [termsC, List.append_assoc, pAnyTerms, ht, hts]

theorem predicate_rt {dateP} (hd : DateShape dateP) (p : SPred) (Y : List Char) (fuel : Nat)
    (hw : wfPredAny dateP p = true) (hf : needVs p.terms ≤ fuel) : pPredicate dateP fuel (predC p ++ Y) = .ok p Y := by
  simp only [wfPredAny, Bool.and_eq_true, Bool.not_eq_true', List.isEmpty_eq_false_iff] at hw
  have hl := anyTerms_rt hd p.terms fuel (')' :: Y) hw.2 hw.1.2 ⟨')', Y, rfl, .inr (.inr rfl)⟩ hf
  simp only [pPredicate, pName_predC p Y hw.1.1, space0_open, hl,
    space0_close, String.ofList_toList]

/-! ## an expression is not read as a predicate -/

/-- after the name characters and blanks at the start of `Z` there is no `(` -/
def NoCall (Z : List Char) : Prop := (space0 (Z.dropWhile isNameChar)).head? ≠ some '('

/-- `name` fails on `s`, or what follows the name is not `(` : `predicate` returns `Error` -/
def NotPred (s : List Char) : Prop := s.takeWhile isNameChar = [] ∨ NoCall s

theorem notPred_head {c : Char} (s : List Char) (h : isNameChar c = false) : NotPred (c :: s) :=
  .inl (List.takeWhile_cons_of_neg (Bool.eq_false_iff.mp h))

theorem noCall_append_all (w Z : List Char) (hall : ∀ c ∈ w, isNameChar c = true) (h : NoCall Z) : NoCall (w ++ Z) := by
  induction w with
  | nil => exact h
  | cons c tl ih =>
    unfold NoCall
    rw [List.cons_append, List.dropWhile_cons_of_pos (hall c List.mem_cons_self)]
    exact ih fun x hx => hall x (List.mem_cons_of_mem _ hx)

theorem noCall_head {c : Char} (s : List Char) (hn : isNameChar c = false) (hs : isSpace c = false) (hp : c ≠ '(') :
    NoCall (c :: s) := by
  unfold NoCall
  rw [List.dropWhile_cons_of_neg (Bool.eq_false_iff.mp hn), space0_cons _ hs]
  exact fun h => hp (Option.some.inj h)

theorem noCall_blank {c : Char} (Z : List Char) (hs : isSpace c = false) (hp : c ≠ '(') : NoCall (' ' :: c :: Z) := by
  unfold NoCall
  rw [List.dropWhile_cons_of_neg (by decide), space0_blank, space0_cons _ hs]
  exact fun h => hp (Option.some.inj h)

theorem notPred_val {dateP} (t : STerm) (Z : List Char) (hw : wfV dateP t = true) (hZ : NoCall Z) :
    NotPred (termC t ++ Z) := by
  cases t with
  | var _ | str _ | param _ | arr _ | map _ => exact notPred_head _ (by decide)
  | set xs => cases xs <;> exact notPred_head _ (by decide)
  | null => exact .inr (noCall_append_all _ Z (by decide) hZ)
  | bool b => cases b <;> exact .inr (noCall_append_all _ Z (by decide) hZ)
  | bytes b =>
    refine .inr (noCall_append_all _ Z (List.forall_mem_append.mpr ⟨by decide, fun c h => (hexEncode_tok b c h).2⟩) hZ)
  | int i =>
    rw [show termC (.int i) = printIntChars i from rfl, printIntChars]
    split
    · exact notPred_head _ (by decide)
    · exact .inr (noCall_append_all _ Z (fun c hc => digit_nameChar (toDigits_all_digit _ c hc)) hZ)
  | date d =>
    -- the name is the leading digits; `-` follows
    obtain ⟨_, _, c, ds, tl, htxt, hc, hds⟩ := dateOK_shape (show dateOK dateP d = true by simpa only [wfV, wfT] using hw)
    rw [show termC (.date d) = (printDate d).toList from rfl, htxt, List.cons_append, List.append_assoc, ← List.cons_append]
    exact .inr (noCall_append_all _ _ (fun x hx => digit_nameChar ((List.mem_cons.mp hx).elim (fun e => e ▸ hc) (hds x)))
      (noCall_head _ (by decide) (by decide) (by decide)))

theorem notPred_gram {dateP} {e : ETree} (h : Gram dateP e) : ∀ Z, NoCall Z → NotPred (showC e ++ Z) := by
  have hdot : ∀ Z, NoCall ('.' :: Z) := fun Z => noCall_head Z (by decide) (by decide) (by decide)
  induction h with
  | val hw => exact fun Z hZ => notPred_val _ Z hw hZ
  | negate => exact fun Z _ => notPred_head _ (by decide)
  | parens => exact fun Z _ => notPred_head _ (by decide)
  | call hu _ _ _ _ ih => intro Z _; rw [showC_call hu, List.append_assoc]; exact ih _ (hdot _)
  | method hb hm _ _ _ _ _ _ ih => intro Z _; rw [showC_method hb hm, List.append_assoc]; exact ih _ (hdot _)
  | closure hb hm _ _ _ _ _ _ ih => intro Z _; rw [showC_closure hb hm, List.append_assoc]; exact ih _ (hdot _)
  | «infix» hb _ _ _ _ _ ih =>
    -- a blank, then an operator symbol: no `(`
    intro Z _
    obtain ⟨c, tl, rfl, hc⟩ := infix_sym_head hb
    rw [showC_foldOne hb, List.append_assoc]
    exact ih _ (noCall_blank _ (opStart_facts hc).1 (opStart_facts hc).2.2)

theorem notPred_expr {dateP} : ∀ e : ETree, wfE dateP e = true → ∀ Z, NoCall Z → NotPred (showC e ++ Z) :=
  fun e hw => notPred_gram (.of_wfE e hw)

theorem notPred_pName {s : List Char} (h : NotPred s) :
    pName s = none ∨ ∃ n r, pName s = some (n, r) ∧ ∀ r1, space0 r ≠ '(' :: r1 := by
  unfold pName
  rcases h with h | h
  · exact .inl (by rw [h])
  · cases htw : s.takeWhile isNameChar with
    | nil => exact .inl rfl
    | cons c tl => exact .inr ⟨_, _, rfl, fun r1 hr => h (by rw [hr]; rfl)⟩

theorem notPred_err {dateP} (fuel : Nat) (s : List Char) (hsp : space0 s = s) (h : NotPred s) :
    pPredicate dateP fuel s = .err ∧ pFactInner dateP fuel s = .err := by
  unfold pPredicate pFactInner
  rw [hsp]
  -- `hr` is what the equation of the arm `| _ => .err` asks for: `simp` finds it in the context
  rcases notPred_pName h with h | ⟨n, r, h, hr⟩ <;> simp only [h, and_self]

/-! ## elements of a body -/

def elemC : SPred ⊕ ETree → List Char
  | .inl p => predC p
  | .inr e => showC e

def wfElem (dateP : List Char → Option Nat) : SPred ⊕ ETree → Bool
  | .inl p => wfPredAny dateP p
  | .inr e => wfE dateP e

def needElem : SPred ⊕ ETree → Nat
  | .inl p => needVs p.terms
  | .inr e => needE e + 40

/-- what may follow an element of a body: it ends an expression of any level and is not a call (that no `,` follows the
    last element is asked for apart, in `elemTail_rt`) -/
structure ElemEnd (X : List Char) : Prop where
  stops : Stops 0 X
  nocall : NoCall X

theorem elemC_head {dateP} (x : SPred ⊕ ETree) (hw : wfElem dateP x = true) :
    ∃ c tl, elemC x = c :: tl ∧ isSpace c = false := by
  cases x with
  | inl p => exact (predC_nameHead p (wfPredAny_name hw)).solid
  | inr e => obtain ⟨c, tl, hs, hsp, _⟩ := (Gram.of_wfE e hw).head; exact ⟨c, tl, hs, hsp⟩

theorem elem_rt {dateP} (hd : DateShape dateP) (x : SPred ⊕ ETree) (X : List Char) (fuel : Nat)
    (hw : wfElem dateP x = true) (hX : ElemEnd X) (hf : needElem x ≤ fuel) :
    pElem dateP fuel (elemC x ++ X) = .ok x X := by
  cases x with
  | inl p => simp only [elemC, pElem, predicate_rt hd p X fuel hw hf]
  | inr e =>
    have hnp := (notPred_err (dateP := dateP) fuel (showC e ++ X) (space0_of_head (elemC_head (.inr e) hw) X)
      (notPred_expr e hw X hX.nocall)).1
    have hex := expr_round_trip_fuel hd e X hw hX.stops (fun _ => hX.stops.mono (Nat.zero_le 6)) fuel hf
    simp only [elemC, pElem, hnp, hex]

def tailElemsC : List (SPred ⊕ ETree) → List Char
  | [] => []
  | x :: xs => ',' :: ' ' :: (elemC x ++ tailElemsC xs)

def needElems : List (SPred ⊕ ETree) → Nat
  | [] => 2
  | x :: xs => max (needElem x) (needElems xs) + 1

theorem elemEnd_tail (xs : List (SPred ⊕ ETree)) (X : List Char) (hX : ElemEnd X) : ElemEnd (tailElemsC xs ++ X) := by
  cases xs with
  | nil => exact hX
  | cons x xs => exact ⟨stops_punct (.inr (.inl rfl)) 0 _, noCall_head _ (by decide) (by decide) (by decide)⟩

theorem elemTail_rt {dateP} (hd : DateShape dateP) : ∀ (xs : List (SPred ⊕ ETree)) (fuel : Nat) (X : List Char),
    (∀ x ∈ xs, wfElem dateP x = true) → ElemEnd X → (space0 X).head? ≠ some ',' → needElems xs ≤ fuel →
    pElemTail dateP fuel (tailElemsC xs ++ X) = .ok xs X := by
  intro xs
  induction xs with
  | nil =>
    intro fuel X _ _ hc hf
    obtain ⟨n, rfl⟩ := fuel_pos hf
    have hc := ne_cons_of_head hc
    simp only [tailElemsC, List.nil_append, pElemTail]
  | cons x xs ih =>
    intro fuel X hw hX hc hf
    obtain ⟨n, rfl, h1, h2⟩ := fuel_cons hf
    have hwx := hw x List.mem_cons_self
    have hx := elem_rt hd x (tailElemsC xs ++ X) n hwx (elemEnd_tail xs X hX) h1
    have hxs := ih n X (fun y hy => hw y (List.mem_cons_of_mem _ hy)) hX hc h2
    simp only [tailElemsC, List.cons_append, List.append_assoc, pElemTail, space0_comma,
      space0_blank, space0_of_head (elemC_head x hwx), hx, hxs]

/-! ## scopes -/

def scopeC : SScope → List Char
  | .authority => ['a', 'u', 't', 'h', 'o', 'r', 'i', 't', 'y']
  | .previous => ['p', 'r', 'e', 'v', 'i', 'o', 'u', 's']
  | .key k => k.toList
  | .param n => '{' :: (n.toList ++ ['}'])

/-- the scopes the grammar derives: a key is written `ed25519/` or `secp256r1/` and the lower-case
    hex of a non-empty byte string -/
def wfScope : SScope → Prop
  | .authority => True
  | .previous => True
  | .param n => validNameL n.toList = true
  | .key k => ∃ (pre : List Char) (b : List UInt8),
      (pre = ['e', 'd', '2', '5', '5', '1', '9', '/'] ∨ pre = ['s', 'e', 'c', 'p', '2', '5', '6', 'r', '1', '/']) ∧ b ≠ [] ∧ k = String.ofList (pre ++ hexEncode b)

theorem scope_rt (sc : SScope) (Y : List Char) (hw : wfScope sc) (hY : ∀ c, Y.head? = some c → isHexTok c = false) :
    pScope (scopeC sc ++ Y) = some (sc, Y) := by
  unfold pScope
  cases sc with
  | authority => rw [show scopeC .authority = ['a', 'u', 't', 'h', 'o', 'r', 'i', 't', 'y'] from rfl, tag_append]
  | previous =>
    rw [show scopeC .previous = ['p', 'r', 'e', 'v', 'i', 'o', 'u', 's'] from rfl, tag_append,
      tag_none_append _ _ _ (show 'a' ≠ 'p' by decide)]
  | param n =>
    have hp := pName_rt n.toList ('}' :: Y) hw (forall_head_cons (by decide))
    simp only [scopeC, List.cons_append, List.append_assoc, List.nil_append, tag_none_head _ _ (show 'a' ≠ '{' by decide),
      tag_none_head _ _ (show 'p' ≠ '{' by decide), tag_none_head _ _ (show 'e' ≠ '{' by decide),
      tag_none_head _ _ (show 's' ≠ '{' by decide), hp, String.ofList_toList]
  | key k =>
    obtain ⟨pre, b, hpre, hb, rfl⟩ := hw
    have hx := pHexT_rt b Y hb hY
    rw [scopeC, String.toList_ofList, List.append_assoc]
    rcases hpre with rfl | rfl
    · simp only [tag_none_append _ _ _ (show 'a' ≠ 'e' by decide), tag_none_append _ _ _ (show 'p' ≠ 'e' by decide),
        tag_append, hx, Option.map_some]
    · simp only [tag_none_append _ _ _ (show 'a' ≠ 's' by decide), tag_none_append _ _ _ (show 'p' ≠ 's' by decide),
        tag_none_append _ _ _ (show 'e' ≠ 's' by decide), tag_append, hx, Option.map_some]

theorem scopeC_head (sc : SScope) (hw : wfScope sc) : ∃ c tl, scopeC sc = c :: tl ∧ isSpace c = false ∧ c ≠ '(' := by
  cases sc with
  | authority => exact ⟨'a', _, rfl, by decide⟩
  | previous => exact ⟨'p', _, rfl, by decide⟩
  | param n => exact ⟨'{', _, rfl, by decide⟩
  | key k =>
    obtain ⟨pre, b, hpre, _, rfl⟩ := hw
    rw [scopeC, String.toList_ofList]
    rcases hpre with rfl | rfl
    · exact ⟨'e', _, rfl, by decide⟩
    · exact ⟨'s', _, rfl, by decide⟩

theorem space0_scopeC (sc : SScope) (hw : wfScope sc) (Z : List Char) : space0 (scopeC sc ++ Z) = scopeC sc ++ Z := by
  obtain ⟨c, tl, hs, hsp, _⟩ := scopeC_head sc hw
  rw [hs]; exact space0_cons _ hsp

def tailScopesC : List SScope → List Char
  | [] => []
  | sc :: scs => ',' :: ' ' :: (scopeC sc ++ tailScopesC scs)

/-- what may follow a list of scopes (or a body without scopes): no `,`, no hex digit -/
structure ScopesEnd (X : List Char) : Prop where
  nocomma : (space0 X).head? ≠ some ','
  nohex : ∀ c, X.head? = some c → isHexTok c = false

theorem nohex_tailScopes (scs : List SScope) (X : List Char) (hX : ScopesEnd X) :
    ∀ c, (tailScopesC scs ++ X).head? = some c → isHexTok c = false := by
  cases scs with
  | nil => exact hX.nohex
  | cons sc scs => exact forall_head_cons (by decide)

theorem scopeTail_rt : ∀ (scs : List SScope) (fuel : Nat) (X : List Char),
    (∀ sc ∈ scs, wfScope sc) → ScopesEnd X → scs.length + 1 ≤ fuel →
    pScopeTail fuel (tailScopesC scs ++ X) = .ok scs X := by
  intro scs
  induction scs with
  | nil =>
    intro fuel X _ hX hf
    obtain ⟨n, rfl⟩ := fuel_pos hf
    have hc := ne_cons_of_head hX.nocomma
    simp only [tailScopesC, List.nil_append, pScopeTail]
  | cons sc scs ih =>
    intro fuel X hw hX hf
    obtain ⟨n, rfl⟩ := fuel_pos hf
    have hwsc := hw sc List.mem_cons_self
    have h1 := scope_rt sc (tailScopesC scs ++ X) hwsc (nohex_tailScopes scs X hX)
    have h2 := ih n X (fun y hy => hw y (List.mem_cons_of_mem _ hy)) hX (Nat.le_of_succ_le_succ hf)
    simp only [tailScopesC, List.cons_append, List.append_assoc, pScopeTail, space0_comma,
      space0_blank, space0_scopeC sc hwsc, h1, h2]

/-- the text of the scopes of a body, as printed: nothing, or ` trusting ` and the list -/
def scopesC : List SScope → List Char
  | [] => []
  | sc :: scs => [' ', 't', 'r', 'u', 's', 't', 'i', 'n', 'g', ' '] ++ (scopeC sc ++ tailScopesC scs)

theorem keywordEnds_blank {s : List Char} (h : ∃ c tl, s = c :: tl ∧ isSpace c = false ∧ c ≠ '(') (Z : List Char) :
    keywordEnds (' ' :: (s ++ Z)) = true := by
  obtain ⟨c, tl, rfl, hs, hp⟩ := h
  have h : ∀ r, c :: (tl ++ Z) ≠ '(' :: r := fun r e => hp (List.head_eq_of_cons_eq e)
  simp only [keywordEnds, List.cons_append, space0_blank, space0_cons _ hs, show isNameChar ' ' = false by decide,
    Bool.not_false, Bool.true_and]

theorem scopes_rt (scs : List SScope) (fuel : Nat) (X : List Char) (hw : ∀ sc ∈ scs, wfScope sc) (hX : ScopesEnd X)
    (hnt : (tag ['t', 'r', 'u', 's', 't', 'i', 'n', 'g'] (space0 X)).filter keywordEnds = none) (hf : scs.length + 1 ≤ fuel) :
    pScopes fuel (scopesC scs ++ X) = .ok scs X := by
  cases scs with
  | nil => simp only [scopesC, List.nil_append, pScopes, hnt]
  | cons sc scs =>
    have hwsc := hw sc List.mem_cons_self
    have h1 := scope_rt sc (tailScopesC scs ++ X) hwsc (nohex_tailScopes scs X hX)
    have h2 := scopeTail_rt scs fuel X (fun y hy => hw y (List.mem_cons_of_mem _ hy)) hX (Nat.le_of_succ_le hf)
    show pScopes fuel (' ' :: (['t', 'r', 'u', 's', 't', 'i', 'n', 'g'] ++ ' ' :: (scopeC sc ++ tailScopesC scs ++ X))) = _
    rw [List.append_assoc, pScopes, tag_word ⟨'t', _, rfl, by decide⟩]
    simp only [Option.filter, keywordEnds_blank (scopeC_head sc hwsc), ↓reduceIte, space0_blank, space0_scopeC sc hwsc, h1, h2]

/-! ## bodies -/

def elems (b : Body) : List (SPred ⊕ ETree) := b.preds.map Sum.inl ++ b.exprs.map Sum.inr

theorem split_elems (ps : List SPred) (es : List ETree) :
    preds (ps.map Sum.inl ++ es.map Sum.inr) = ps ∧ trees (ps.map Sum.inl ++ es.map Sum.inr) = es := by
  induction ps with
  | nil =>
    induction es with
    | nil => exact ⟨rfl, rfl⟩
    | cons e es ih => exact ⟨ih.1, congrArg (e :: ·) ih.2⟩
  | cons p ps ih => exact ⟨congrArg (p :: ·) ih.1, ih.2⟩

/-- the text of a body: its predicates, then its expressions, separated by `, `; then the scopes -/
def bodyC (b : Body) : List Char :=
  match elems b with
  | [] => scopesC b.scopes
  | x :: xs => elemC x ++ (tailElemsC xs ++ scopesC b.scopes)

structure WfBody (dateP : List Char → Option Nat) (b : Body) : Prop where
  nonempty : elems b ≠ []
  elems_wf : ∀ x ∈ elems b, wfElem dateP x = true
  scopes_wf : ∀ sc ∈ b.scopes, wfScope sc

def needBody (b : Body) : Nat := needElems (elems b) + b.scopes.length + 2

/-- what may follow a body -/
structure BodyEnd (X : List Char) : Prop where
  elemEnd : ElemEnd X
  scopesEnd : ScopesEnd X
  notrusting : (tag ['t', 'r', 'u', 's', 't', 'i', 'n', 'g'] (space0 X)).filter keywordEnds = none

theorem elemEnd_word {c : Char} (Z : List Char) (ho : opStart c = false) (hs : isSpace c = false) (hp : c ≠ '(') :
    ElemEnd (' ' :: c :: Z) :=
  ⟨⟨forall_head_cons (.inl rfl), .inr (.inl ⟨c, Z, by rw [space0_blank]; exact space0_cons _ hs, ho⟩)⟩,
    noCall_blank Z hs hp⟩

theorem elemEnd_scopes (scs : List SScope) (X : List Char) (hX : ElemEnd X) : ElemEnd (scopesC scs ++ X) := by
  cases scs with
  | nil => exact hX
  | cons sc scs => exact elemEnd_word _ (by decide) (by decide) (by decide)

theorem nocomma_scopes (scs : List SScope) (X : List Char) (hX : ScopesEnd X) : (space0 (scopesC scs ++ X)).head? ≠ some ',' := by
  cases scs with
  | nil => exact hX.nocomma
  | cons sc scs => exact fun h => absurd (Option.some.inj h) (by decide)

/-- `rule_body` reads a list of elements, predicates and expressions in any order, and the scopes, and sorts the
    elements into two lists -/
theorem elems_rt {dateP} (hd : DateShape dateP) (x : SPred ⊕ ETree) (xs : List (SPred ⊕ ETree)) (scs : List SScope)
    (X : List Char) (fuel : Nat) (hwe : ∀ y ∈ x :: xs, wfElem dateP y = true) (hws : ∀ sc ∈ scs, wfScope sc) (hX : BodyEnd X)
    (hf : needElems (x :: xs) + scs.length + 2 ≤ fuel) :
    pBody dateP fuel (elemC x ++ (tailElemsC xs ++ (scopesC scs ++ X))) = .ok ⟨preds (x :: xs), trees (x :: xs), scs⟩ X := by
  have hs : scs.length + 1 ≤ fuel := Nat.le_trans (Nat.le_add_left (scs.length + 1) _) (Nat.le_of_succ_le hf)
  obtain ⟨n, rfl, h1, h2⟩ := fuel_cons (Nat.le_of_add_right_le (Nat.le_of_add_right_le hf))
  have hwx := hwe x List.mem_cons_self
  have hE := elemEnd_scopes scs X hX.elemEnd
  have h1 := elem_rt hd x (tailElemsC xs ++ (scopesC scs ++ X)) (n + 1) hwx (elemEnd_tail xs _ hE) (Nat.le_succ_of_le h1)
  have h2 := elemTail_rt hd xs (n + 1) (scopesC scs ++ X) (fun y hy => hwe y (List.mem_cons_of_mem _ hy)) hE
    (nocomma_scopes scs X hX.scopesEnd) (Nat.le_succ_of_le h2)
  have h3 := scopes_rt scs (n + 1) X hws hX.scopesEnd hX.notrusting hs
  simp only [pBody, space0_of_head (elemC_head x hwx), h1, h2, h3]

/-- **a printed body is read back by `rule_body`** -/
theorem body_rt {dateP} (hd : DateShape dateP) (b : Body) (X : List Char) (fuel : Nat) (hw : WfBody dateP b)
    (hX : BodyEnd X) (hf : needBody b ≤ fuel) : pBody dateP fuel (bodyC b ++ X) = .ok b X := by
  obtain ⟨x, xs, hel⟩ := List.exists_cons_of_ne_nil hw.nonempty
  have hsp : preds (x :: xs) = b.preds ∧ trees (x :: xs) = b.exprs := hel ▸ split_elems b.preds b.exprs
  rw [needBody, hel] at hf
  rw [bodyC, hel, List.append_assoc, List.append_assoc, elems_rt hd x xs b.scopes X fuel (hel ▸ hw.elems_wf) hw.scopes_wf hX hf,
    hsp.1, hsp.2]

/-! ## alternatives separated by `or` -/

def tailBodiesC : List Body → List Char
  | [] => []
  | b :: bs => ' ' :: 'o' :: 'r' :: ' ' :: (bodyC b ++ tailBodiesC bs)

def needBodies : List Body → Nat
  | [] => 2
  | b :: bs => max (needBody b) (needBodies bs) + 1

/-- what may follow the last alternative: what may follow a body, and no `or` -/
structure ItemEnd (X : List Char) : Prop where
  bodyEnd : BodyEnd X
  noor : tagOr (space0 X) = none

theorem space0_or (Z : List Char) : space0 (' ' :: 'o' :: 'r' :: ' ' :: Z) = 'o' :: 'r' :: ' ' :: Z := by
  rw [space0_blank, space0_cons _ (show isSpace 'o' = false by decide)]

theorem tagOr_or (Z : List Char) : tagOr (space0 (' ' :: 'o' :: 'r' :: ' ' :: Z)) = some (' ' :: Z) := by
  rw [space0_or]; rfl

theorem bodyEnd_or (Z : List Char) : BodyEnd (' ' :: 'o' :: 'r' :: ' ' :: Z) := by
  refine ⟨elemEnd_word _ (by decide) (by decide) (by decide), ⟨?_, forall_head_cons (by decide)⟩, ?_⟩
  · rw [space0_or]; exact fun h => absurd (Option.some.inj h) (by decide)
  · rw [space0_or, tag_none_head _ _ (by decide)]; rfl

theorem bodyEnd_tailBodies (bs : List Body) (X : List Char) (hX : BodyEnd X) : BodyEnd (tailBodiesC bs ++ X) := by
  cases bs with
  | nil => exact hX
  | cons b bs => exact bodyEnd_or _

theorem bodyC_head {dateP} (b : Body) (hw : WfBody dateP b) : ∃ c tl, bodyC b = c :: tl ∧ isSpace c = false := by
  obtain ⟨x, xs, hel⟩ := List.exists_cons_of_ne_nil hw.nonempty
  obtain ⟨c, tl, hs, hsp⟩ := elemC_head x (hw.elems_wf x (hel ▸ List.mem_cons_self))
  refine ⟨c, tl ++ (tailElemsC xs ++ scopesC b.scopes), ?_, hsp⟩
  rw [bodyC, hel]
  exact congrArg (· ++ (tailElemsC xs ++ scopesC b.scopes)) hs

theorem bodiesTail_rt {dateP} (hd : DateShape dateP) : ∀ (bs : List Body) (fuel : Nat) (X : List Char),
    (∀ b ∈ bs, WfBody dateP b) → ItemEnd X → needBodies bs ≤ fuel →
    pBodiesTail dateP fuel (tailBodiesC bs ++ X) = .ok bs X := by
  intro bs
  induction bs with
  | nil =>
    intro fuel X _ hX hf
    obtain ⟨n, rfl⟩ := fuel_pos hf
    simp only [tailBodiesC, List.nil_append, pBodiesTail, hX.noor]
  | cons b bs ih =>
    intro fuel X hw hX hf
    obtain ⟨n, rfl, h1, h2⟩ := fuel_cons hf
    have hwb := hw b List.mem_cons_self
    have h1 := body_rt hd b (tailBodiesC bs ++ X) n hwb (bodyEnd_tailBodies bs X hX.bodyEnd) h1
    have h2 := ih n X (fun y hy => hw y (List.mem_cons_of_mem _ hy)) hX h2
    show pBodiesTail dateP (n + 1) (' ' :: 'o' :: 'r' :: ' ' :: (bodyC b ++ tailBodiesC bs ++ X)) = _
    rw [List.append_assoc, pBodiesTail, tagOr_or]
    simp only [space0_blank, space0_of_head (bodyC_head b hwb), h1, h2]

theorem checkBody_rt {dateP} (hd : DateShape dateP) (b : Body) (bs : List Body) (fuel : Nat) (X : List Char)
    (hw : ∀ y ∈ b :: bs, WfBody dateP y) (hX : ItemEnd X) (hf : needBodies (b :: bs) ≤ fuel) :
    pCheckBody dateP fuel (' ' :: (bodyC b ++ (tailBodiesC bs ++ X))) = .ok (b :: bs) X := by
  obtain ⟨n, rfl, h1, h2⟩ := fuel_cons hf
  have hwb := hw b List.mem_cons_self
  have h1 := body_rt hd b (tailBodiesC bs ++ X) (n + 1) hwb (bodyEnd_tailBodies bs X hX.bodyEnd) (Nat.le_succ_of_le h1)
  have h2 := bodiesTail_rt hd bs (n + 1) X (fun y hy => hw y (List.mem_cons_of_mem _ hy)) hX (Nat.le_succ_of_le h2)
  simp only [pCheckBody, space0_blank, space0_of_head (bodyC_head b hwb), h1, h2]

/-! ## checks, policies, rules -/

def ckindC : CKind → List Char
  | .one => ['c', 'h', 'e', 'c', 'k', ' ', 'i', 'f']
  | .all => ['c', 'h', 'e', 'c', 'k', ' ', 'a', 'l', 'l']
  | .reject => ['r', 'e', 'j', 'e', 'c', 't', ' ', 'i', 'f']

def pkindC : PKind → List Char
  | .allow => ['a', 'l', 'l', 'o', 'w', ' ', 'i', 'f']
  | .deny => ['d', 'e', 'n', 'y', ' ', 'i', 'f']

/-- `tag_no_case` looks at no more of the text than the tag is long: on a keyword, a blank and any text it does what it
    does on the keyword and the blank (a closed term, so `h` is checked by evaluation) -/
theorem tagNoCase_kw {t kw : List Char} {o : Option (List Char)} (Z : List Char)
    (h : t.length ≤ (kw ++ [' ']).length ∧ tagNoCase t (kw ++ [' ']) = o) :
    tagNoCase t (kw ++ ' ' :: Z) = o.map (· ++ Z) := by
  obtain ⟨hl, rfl⟩ := h
  rw [show kw ++ ' ' :: Z = (kw ++ [' ']) ++ Z from (List.append_assoc kw [' '] Z).symm]
  unfold tagNoCase
  rw [List.take_append_of_le_length hl, List.drop_append_of_le_length hl, List.length_append]
  by_cases hc : List.map Char.toLower (List.take t.length (kw ++ [' '])) = t
  · rw [if_pos ⟨Nat.le_trans hl (Nat.le_add_right _ _), hc⟩, if_pos ⟨hl, hc⟩]; rfl
  · rw [if_neg fun h' => hc h'.2, if_neg fun h' => hc h'.2]; rfl

theorem tagNoCase_none_head {a b : Char} (t s : List Char) (h : Char.toLower b ≠ a) : tagNoCase (a :: t) (b :: s) = none := by
  simp [tagNoCase, h]

theorem ckind_tags (k : CKind) (Z : List Char) :
    tagNoCase ['c', 'h', 'e', 'c', 'k', ' ', 'i', 'f'] (ckindC k ++ ' ' :: Z) = (if k = .one then some [' '] else none).map (· ++ Z) ∧
    tagNoCase ['c', 'h', 'e', 'c', 'k', ' ', 'a', 'l', 'l'] (ckindC k ++ ' ' :: Z) = (if k = .all then some [' '] else none).map (· ++ Z) ∧
    tagNoCase ['r', 'e', 'j', 'e', 'c', 't', ' ', 'i', 'f'] (ckindC k ++ ' ' :: Z) = (if k = .reject then some [' '] else none).map (· ++ Z) := by
  cases k <;> refine ⟨tagNoCase_kw Z ?_, tagNoCase_kw Z ?_, tagNoCase_kw Z ?_⟩ <;> decide

theorem pkind_tags (k : PKind) (Z : List Char) :
    tagNoCase ['a', 'l', 'l', 'o', 'w', ' ', 'i', 'f'] (pkindC k ++ ' ' :: Z) = (if k = .allow then some [' '] else none).map (· ++ Z) ∧
    tagNoCase ['d', 'e', 'n', 'y', ' ', 'i', 'f'] (pkindC k ++ ' ' :: Z) = (if k = .deny then some [' '] else none).map (· ++ Z) := by
  cases k <;> refine ⟨tagNoCase_kw Z ?_, tagNoCase_kw Z ?_⟩ <;> decide

/-- **C14, checks.** `check if` / `check all` / `reject if`, a blank, and alternatives separated
    by ` or `: read back as that kind and those alternatives. -/
theorem check_rt {dateP} (hd : DateShape dateP) (k : CKind) (b : Body) (bs : List Body) (fuel : Nat) (X : List Char)
    (hw : ∀ y ∈ b :: bs, WfBody dateP y) (hX : ItemEnd X) (hf : needBodies (b :: bs) ≤ fuel) :
    pCheckInner dateP fuel (ckindC k ++ ' ' :: (bodyC b ++ (tailBodiesC bs ++ X))) = .ok (k, b :: bs) X := by
  obtain ⟨h1, h2, h3⟩ := ckind_tags k (bodyC b ++ (tailBodiesC bs ++ X))
  have hs : ∀ Z, space0 (ckindC k ++ ' ' :: Z) = ckindC k ++ ' ' :: Z := by cases k <;> exact fun _ => rfl
  have h := checkBody_rt hd b bs fuel X hw hX hf
  unfold pCheckInner
  simp only [hs, h1, h2, h3]
  cases k <;> simp only [reduceCtorEq, ↓reduceIte, Option.map_some, Option.map_none, List.cons_append, List.nil_append, h]

/-- **C14, policies.** -/
theorem policy_rt {dateP} (hd : DateShape dateP) (k : PKind) (b : Body) (bs : List Body) (fuel : Nat) (X : List Char)
    (hw : ∀ y ∈ b :: bs, WfBody dateP y) (hX : ItemEnd X) (hf : needBodies (b :: bs) ≤ fuel) :
    pPolicyInner dateP fuel (pkindC k ++ ' ' :: (bodyC b ++ (tailBodiesC bs ++ X))) = .ok (k, b :: bs) X := by
  obtain ⟨h1, h2⟩ := pkind_tags k (bodyC b ++ (tailBodiesC bs ++ X))
  have hs : ∀ Z, space0 (pkindC k ++ ' ' :: Z) = pkindC k ++ ' ' :: Z := by cases k <;> exact fun _ => rfl
  have h := checkBody_rt hd b bs fuel X hw hX hf
  unfold pPolicyInner
  simp only [hs, h1, h2]
  cases k <;> simp only [reduceCtorEq, ↓reduceIte, Option.map_some, Option.map_none, List.cons_append, List.nil_append, h]

theorem pRuleInner_err {dateP} {fuel : Nat} {s : List Char} (h : pPredicate dateP fuel s = .err) : pRuleInner dateP fuel s = .err := by
  unfold pRuleInner
  rw [h]

/-- **C14, rules.** `head <- body`: read back as that head and that body, provided the rule is one
    the parser accepts (`validVars`: the variables of the head and the top-level variable
    operands of the expressions occur in body predicates). -/
theorem rule_rt {dateP} (hd : DateShape dateP) (head : SPred) (b : Body) (fuel : Nat) (X : List Char)
    (hwh : wfPredAny dateP head = true) (hw : WfBody dateP b) (hv : validVars head b = true) (hX : BodyEnd X)
    (hf : needVs head.terms + needBody b ≤ fuel) :
    pRuleInner dateP fuel (predC head ++ ' ' :: '<' :: '-' :: ' ' :: (bodyC b ++ X)) = .ok (head, b) X := by
  have h1 := predicate_rt hd head (' ' :: '<' :: '-' :: ' ' :: (bodyC b ++ X)) fuel hwh (Nat.le_of_add_right_le hf)
  have h2 := body_rt hd b X fuel hw hX (Nat.le_of_add_left_le hf)
  have ht : tag ['<', '-'] (space0 (' ' :: '<' :: '-' :: ' ' :: (bodyC b ++ X))) = some (' ' :: (bodyC b ++ X)) :=
    tag_word ⟨'<', ['-'], rfl, by decide⟩ _
  have hb : pBody dateP fuel (' ' :: (bodyC b ++ X)) = pBody dateP fuel (bodyC b ++ X) := by
    unfold pBody; rw [space0_blank]
  simp only [pRuleInner, h1, ht, hb, h2, hv, ↓reduceIte]

/-! ## the texts above are what the printer model writes -/

/-- a parsed rule as the builders hold it: expressions flattened into ops (`Expr::opcodes`) -/
def toSRule (head : SPred) (b : Body) : SRule := ⟨head, b.preds, b.exprs.map opcodes, b.scopes⟩

def joinTail (ss : List (List Char)) : List Char := ss.flatMap fun y => ',' :: ' ' :: y

def joinC : List (List Char) → List Char
  | [] => []
  | x :: xs => x ++ joinTail xs

theorem joinWith_toList (sep : String) (x : String) (xs : List String) :
    (joinWith sep (x :: xs)).toList = x.toList ++ (xs.map String.toList).flatMap (sep.toList ++ ·) := by
  induction xs generalizing x with
  | nil => exact (List.append_nil _).symm
  | cons y ys ih =>
    rw [show joinWith sep (x :: y :: ys) = x ++ sep ++ joinWith sep (y :: ys) from rfl, String.toList_append,
      String.toList_append, ih y, List.map_cons, List.flatMap_cons, List.append_assoc, List.append_assoc]

/-- a string literal as characters: comparing it with `String.ofList l` is the cheap way to evaluate it -/
theorem toList_of_eq {s : String} {l : List Char} (h : s = String.ofList l) : s.toList = l :=
  h ▸ String.toList_ofList

/-- the words `print_rule_body`, `Rule::fmt` and `Check::fmt` put between the parts -/
theorem words_toList : (" trusting " : String).toList = [' ', 't', 'r', 'u', 's', 't', 'i', 'n', 'g', ' '] ∧
    (" <- " : String).toList = [' ', '<', '-', ' '] ∧ (" or " : String).toList = [' ', 'o', 'r', ' '] :=
  ⟨toList_of_eq (by decide), toList_of_eq (by decide), toList_of_eq (by decide)⟩

theorem joinWith_toListC (ss : List String) : (joinWith ", " ss).toList = joinC (ss.map String.toList) := by
  cases ss with
  | nil => rfl
  | cons x xs => rw [joinWith_toList, sep_toList.1]; rfl

theorem sepTail_eq {α : Type} (sep : List Char) (f : α → List Char) (tail : List α → List Char) (h0 : tail [] = [])
    (hc : ∀ x xs, tail (x :: xs) = sep ++ (f x ++ tail xs)) (xs : List α) : tail xs = (xs.map f).flatMap (sep ++ ·) := by
  induction xs with
  | nil => exact h0
  | cons x xs ih => rw [hc, ih, List.map_cons, List.flatMap_cons, List.append_assoc]

theorem tailElemsC_eq (xs : List (SPred ⊕ ETree)) : tailElemsC xs = joinTail (xs.map elemC) :=
  sepTail_eq [',', ' '] elemC tailElemsC rfl (fun _ _ => rfl) xs

theorem tailScopesC_eq (scs : List SScope) : tailScopesC scs = joinTail (scs.map scopeC) :=
  sepTail_eq [',', ' '] scopeC tailScopesC rfl (fun _ _ => rfl) scs

theorem printScope_toList (sc : SScope) : (printScope sc).toList = scopeC sc := by
  cases sc with
  | authority => exact toList_of_eq (by decide)
  | previous => exact toList_of_eq (by decide)
  | key k => rfl
  | param n => rw [printScope, String.toList_append, String.toList_append]; rfl

theorem printExprOr_tree {dateP} (e : ETree) (hw : wfE dateP e = true) : (printExprOr (opcodes e)).toList = showC e := by
  rw [printExprOr, printExpr_opcodes, Option.getD_some]
  exact (Gram.of_wfE e hw).showTree_eq

theorem joinTail_append (a b : List (List Char)) : joinTail (a ++ b) = joinTail a ++ joinTail b :=
  List.flatMap_append

/-- two lists written as one, the way `print_rule_body` joins predicates and expressions -/
theorem joinC_append (a b : List (List Char)) :
    joinC (a ++ b) = joinC a ++ if b.isEmpty then [] else if a.isEmpty then joinC b else ',' :: ' ' :: joinC b := by
  cases a with
  | nil => cases b <;> rfl
  | cons x xs =>
    cases b with
    | nil => simp only [List.append_nil, List.isEmpty_nil, ↓reduceIte]
    | cons y ys => simp only [List.cons_append, joinC, joinTail, List.flatMap_append, List.flatMap_cons, List.append_assoc,
        List.isEmpty_cons, Bool.false_eq_true, ↓reduceIte]

theorem bodyC_eq (b : Body) : bodyC b = joinC ((elems b).map elemC) ++ scopesC b.scopes := by
  unfold bodyC
  cases elems b with
  | nil => rfl
  | cons x xs => simp only [List.map_cons, joinC, tailElemsC_eq, List.append_assoc]

theorem scopesC_eq (scs : List SScope) :
    scopesC scs = if scs.isEmpty then [] else [' ', 't', 'r', 'u', 's', 't', 'i', 'n', 'g', ' '] ++ joinC (scs.map scopeC) := by
  cases scs with
  | nil => rfl
  | cons sc scs => simp only [scopesC, List.isEmpty_cons, Bool.false_eq_true, ↓reduceIte, List.map_cons, joinC, tailScopesC_eq]

/-- on well-formed bodies the printer model's `printBody` writes `bodyC` -/
theorem printBody_eq_bodyC {dateP} (head : SPred) (b : Body) (hw : WfBody dateP b) :
    (printBody (toSRule head b)).toList = bodyC b := by
  have hpreds : (b.preds.map printPred).map String.toList = b.preds.map predC := by
    rw [List.map_map]; exact List.map_congr_left fun p _ => printPred_eq_predC p
  have hexprs : ((b.exprs.map opcodes).map printExprOr).map String.toList = b.exprs.map showC := by
    rw [List.map_map, List.map_map]
    exact List.map_congr_left fun e he => printExprOr_tree e (hw.elems_wf (.inr e)
      (List.mem_append_right _ (List.mem_map_of_mem he)))
  have hscopes : (b.scopes.map printScope).map String.toList = b.scopes.map scopeC := by
    rw [List.map_map]; exact List.map_congr_left fun x _ => printScope_toList x
  have hel : (elems b).map elemC = b.preds.map predC ++ b.exprs.map showC := by
    rw [elems, List.map_append, List.map_map, List.map_map]; rfl
  rw [bodyC_eq, hel, scopesC_eq, joinC_append]
  unfold printBody toSRule
  simp only [String.toList_append, apply_ite String.toList, String.toList_empty, List.isEmpty_map,
    joinWith_toListC, hpreds, hexprs, hscopes, sep_toList.1, words_toList.1, List.append_assoc, List.cons_append,
    List.nil_append]

/-- on well-formed rules the printer model's `printRule` writes the text of `rule_rt` -/
theorem printRule_eq {dateP} (head : SPred) (b : Body) (hw : WfBody dateP b) :
    (printRule (toSRule head b)).toList = predC head ++ ' ' :: '<' :: '-' :: ' ' :: bodyC b := by
  rw [printRule, String.toList_append, String.toList_append, printBody_eq_bodyC head b hw, words_toList.2.1,
    show (toSRule head b).head = head from rfl, printPred_eq_predC, List.append_assoc]
  rfl

theorem tailBodiesC_eq (bs : List Body) : tailBodiesC bs = (bs.map bodyC).flatMap ([' ', 'o', 'r', ' '] ++ ·) :=
  sepTail_eq [' ', 'o', 'r', ' '] bodyC tailBodiesC rfl (fun _ _ => rfl) bs

/-- a parsed check as the builders hold it: every alternative a rule with the head `query()` -/
def toSCheck (k : CKind) (bs : List Body) : SCheck := ⟨k, bs.map (toSRule ⟨"query", []⟩)⟩

theorem kw_toList {dateP} {kw : String} {kindC : List Char} (hk : kw.toList = kindC ++ [' ']) (b : Body) (bs : List Body)
    (hw : ∀ y ∈ b :: bs, WfBody dateP y) :
    (kw ++ joinWith " or " (((b :: bs).map (toSRule ⟨"query", []⟩)).map printBody)).toList =
      kindC ++ ' ' :: (bodyC b ++ tailBodiesC bs) := by
  have hb : ((bs.map (toSRule ⟨"query", []⟩)).map printBody).map String.toList = bs.map bodyC := by
    rw [List.map_map, List.map_map]
    exact List.map_congr_left fun y hy => printBody_eq_bodyC _ y (hw y (List.mem_cons_of_mem _ hy))
  rw [String.toList_append, hk, List.map_cons, List.map_cons, joinWith_toList, words_toList.2.2, hb,
    printBody_eq_bodyC _ b (hw b List.mem_cons_self), tailBodiesC_eq, List.append_assoc]
  rfl

/-- on well-formed checks the printer model's `printCheck` writes the text of `check_rt` -/
theorem printCheck_eq {dateP} (k : CKind) (b : Body) (bs : List Body) (hw : ∀ y ∈ b :: bs, WfBody dateP y) :
    (printCheck (toSCheck k (b :: bs))).toList = ckindC k ++ ' ' :: (bodyC b ++ tailBodiesC bs) := by
  have hk : (match k with | .one => "check if " | .all => "check all " | .reject => "reject if " : String).toList =
      ckindC k ++ [' '] := by cases k <;> exact toList_of_eq (by decide)
  exact kw_toList hk b bs hw

/-! ## non-vacuity -/

/-- `check if resource($r), operation($o), $o === "read" || $r.starts_with("/pub") trusting authority, ed25519/0a1b
      or admin($u) trusting previous` -/
def exBody1 : Body :=
  ⟨[⟨"resource", [.var "r"]⟩, ⟨"operation", [.var "o"]⟩],
   [.bin .lazyOr (.bin .eq (.val (.var "o")) (.val (.str "read")))
      (.clo [] (.bin .prefix (.val (.var "r")) (.val (.str "/pub"))))],
   [.authority, .key "ed25519/0a1b"]⟩

def exBody2 : Body := ⟨[⟨"admin", [.var "u"]⟩], [], [.previous]⟩

theorem exBody1_wf : WfBody (fun _ => none) exBody1 := by
  refine ⟨by decide +kernel, by decide +kernel, ?_⟩
  intro sc hsc
  rcases List.mem_cons.mp hsc with rfl | hsc
  · trivial
  · cases List.mem_singleton.mp hsc
    exact ⟨['e', 'd', '2', '5', '5', '1', '9', '/'], [10, 27], .inl rfl, List.cons_ne_nil _ _, by decide +kernel⟩

theorem exBody2_wf : WfBody (fun _ => none) exBody2 := by
  refine ⟨by decide +kernel, by decide +kernel, ?_⟩
  intro sc hsc
  cases List.mem_singleton.mp hsc
  trivial

theorem itemEnd_nil : ItemEnd [] :=
  ⟨⟨⟨stops_nil 0, (nomatch ·)⟩, ⟨(nomatch ·), fun _ h => nomatch h⟩, rfl⟩, rfl⟩

example : pCheckInner (fun _ => none) 1000
    (ckindC .one ++ ' ' :: (bodyC exBody1 ++ (tailBodiesC [exBody2] ++ []))) = .ok (.one, [exBody1, exBody2]) [] :=
  check_rt dateShape_none .one exBody1 [exBody2] 1000 []
    (List.forall_mem_cons.mpr ⟨exBody1_wf, List.forall_mem_cons.mpr ⟨exBody2_wf, fun _ h => nomatch h⟩⟩)
    itemEnd_nil (by decide)

end Biscuit.RuleParser
