/-
  C15 — revocation identifiers are stable, unique and not malleable.
-/
import BiscuitModel.Props.C02
namespace Biscuit.C15
open Biscuit Biscuit.C02

/-! ## stability: operations only add identifiers -/

theorem revocation_ids_are_signatures (c : Container) :
    c.revocationIds = c.authority.sig :: c.blocks.map (·.sig) := rfl

/-- **Every operation keeps the identifiers of the existing blocks, in order**, and adds at most
    one at the end. -/
theorem op_ids_prefix (S : Scheme) (c c' : Container) (op : TokOp) (h : applyOp S c op = some c') :
    ∃ suffix, c'.revocationIds = c.revocationIds ++ suffix ∧ suffix.length ≤ 1 := by
  cases op with
  | append a sk d e dv =>
    obtain ⟨b, rfl, _⟩ := appendBlock_some S c c' a sk d e dv h
    exact ⟨[b.sig], congrArg (c.authority.sig :: ·) List.map_append, Nat.le_refl 1⟩
  | sealOp =>
    obtain ⟨_, _, rfl⟩ := sealToken_some h
    exact ⟨[], (List.append_nil _).symm, Nat.zero_le 1⟩

/-- **Stability over any history**: after any sequence of attenuations, third-party appends and
    a seal, the identifier list has the original list as a prefix. -/
theorem ids_prefix_stable (S : Scheme) :
    ∀ (ops : List TokOp) (c c' : Container), runOps S c ops = some c' →
      ∃ suffix, c'.revocationIds = c.revocationIds ++ suffix := by
  intro ops
  induction ops with
  | nil => intro c c' h; exact ⟨[], Option.some.inj h ▸ (List.append_nil _).symm⟩
  | cons op rest ih =>
    intro c c' h
    obtain ⟨c1, hop, h⟩ := Option.bind_eq_some_iff.1 (runOps_cons S c op rest ▸ h)
    obtain ⟨s1, h1, _⟩ := op_ids_prefix S c c1 op hop
    obtain ⟨s2, h2⟩ := ih c1 c' h
    exact ⟨s1 ++ s2, by rw [h2, h1, List.append_assoc]⟩

/-! ## non-malleability for schemes with unique signatures -/

/-- at most one signature verifies for a key and a message; ed25519 does not have this against
    the holder of the key, who can sign again with another nonce -/
def Unique (S : Scheme) : Prop :=
  ∀ pk m s s', S.verify pk m s = true → S.verify pk m s' = true → s = s'

/-- the same signed content: everything but the blocks' own signatures -/
def sameBlock (b b' : SBlock) : Prop :=
  b.data = b'.data ∧ b.nextKey = b'.nextKey ∧ b.ext = b'.ext ∧ b.version = b'.version

theorem sameBlock.eq {b b' : SBlock} (h : sameBlock b b') : b = { b' with sig := b.sig } := by
  obtain ⟨d, k, s, e, v⟩ := b
  obtain ⟨rfl, rfl, rfl, rfl⟩ := h
  rfl

theorem blockPayload_congr (b b' : SBlock) (p : Bytes) (h : sameBlock b b') :
    blockPayload b p = blockPayload b' p := by
  rw [h.eq, blockPayload_sig]

theorem authorityPayload_congr (b b' : SBlock) (h : sameBlock b b') : authorityPayload b = authorityPayload b' := by
  rw [h.eq, authorityPayload_sig]

theorem chain_sigs_unique (S : Scheme) (hU : Unique S) :
    ∀ (bs bs' : List SBlock) (pk : PubKey) (sig : Bytes) (a a' l l' : SBlock),
      bs.length = bs'.length → (∀ i (h : i < bs.length) (h' : i < bs'.length), sameBlock bs[i] bs'[i]) →
      verifyChain S pk sig a bs = some l → verifyChain S pk sig a' bs' = some l' →
      bs.map (·.sig) = bs'.map (·.sig) := by
  intro bs
  induction bs with
  | nil =>
    intro bs' pk sig a a' l l' hlen _ _ _
    cases bs' with
    | nil => rfl
    | cons y ys => cases hlen
  | cons x xs ih =>
    intro bs' pk sig a a' l l' hlen hsame h h'
    cases bs' with
    | nil => cases hlen
    | cons y ys =>
      obtain ⟨hx, h⟩ := Option.ite_none_right_eq_some.1 h
      obtain ⟨hy, h'⟩ := Option.ite_none_right_eq_some.1 h'
      have hxy : sameBlock x y := hsame 0 (Nat.succ_pos _) (Nat.succ_pos _)
      -- both blocks verify over the same payload: their signatures coincide
      obtain ⟨p, hp, hv, _⟩ := (verifyBlock_iff ..).mp hx
      obtain ⟨p', hp', hv', _⟩ := (verifyBlock_iff ..).mp hy
      cases (hp.symm.trans (blockPayload_congr x y sig hxy)).trans hp'
      have hsig : x.sig = y.sig := hU pk p _ _ hv hv'
      rw [hxy.2.1, hsig] at h
      rw [List.map_cons, List.map_cons, hsig, ih ys y.nextKey y.sig x y l l' (Nat.succ.inj hlen)
        (fun i hi hi' => hsame (i + 1) (Nat.succ_lt_succ hi) (Nat.succ_lt_succ hi')) h h']

/-- **No accepted variant presents different identifiers for the same blocks** when signatures
    are unique: two tokens that verify under the same root key and carry the same signed
    content have the same revocation identifiers. -/
theorem non_malleable_strict (S : Scheme) (hU : Unique S) (root : PubKey) (c c' : Container)
    (ha : sameBlock c.authority c'.authority) (hlen : c.blocks.length = c'.blocks.length)
    (hb : ∀ i (h : i < c.blocks.length) (h' : i < c'.blocks.length), sameBlock c.blocks[i] c'.blocks[i])
    (hv : verifyToken S root c = true) (hv' : verifyToken S root c' = true) :
    c.revocationIds = c'.revocationIds := by
  obtain ⟨_, hauth, hch, _⟩ := (verifyToken_iff S root c).mp hv
  obtain ⟨_, hauth', hch', _⟩ := (verifyToken_iff S root c').mp hv'
  obtain ⟨p, hp, hs⟩ := (verifyAuthority_iff ..).mp hauth
  obtain ⟨p', hp', hs'⟩ := (verifyAuthority_iff ..).mp hauth'
  cases (hp.symm.trans (authorityPayload_congr _ _ ha)).trans hp'
  have hsig : c.authority.sig = c'.authority.sig := hU root p _ _ hs hs'
  rw [ha.2.1, hsig] at hch
  simp only [Container.revocationIds, hsig, chain_sigs_unique S hU c.blocks c'.blocks _ _ _ _ _ _ hlen hb hch hch']

/-! ## the full statement fails for schemes that accept two signatures (ECDSA: (r, s) and (r, n−s)) -/

/-- a scheme in which every signature has a second valid form (its bytes with the last one flipped) -/
def twoFormScheme : Scheme where
  pub := fun alg sk => some ⟨alg, sk⟩
  sign := fun _ sk m => sk ++ m ++ [0]
  verify := fun pk m s => s == pk.bytes ++ m ++ [0] || s == pk.bytes ++ m ++ [1]

def wTok : Container := ⟨none, ⟨[7], ⟨1, [5]⟩, [9] ++ [7] ++ Gen.le32 1 ++ [5] ++ [0], none, none⟩, [], .secret [5]⟩
def wTok' : Container := ⟨none, ⟨[7], ⟨1, [5]⟩, [9] ++ [7] ++ Gen.le32 1 ++ [5] ++ [1], none, none⟩, [], .secret [5]⟩

/-- the same block, both tokens accepted under the same root key, different identifiers:
    the identifier of the last block of an unsealed token is malleable when the scheme is -/
theorem ecdsa_last_id_witness :
    verifyToken twoFormScheme ⟨1, [9]⟩ wTok = true ∧ verifyToken twoFormScheme ⟨1, [9]⟩ wTok' = true ∧
    sameBlock wTok.authority wTok'.authority ∧ wTok.revocationIds ≠ wTok'.revocationIds := by
  refine ⟨by decide +kernel, by decide +kernel, ⟨rfl, rfl, rfl, rfl⟩, by decide +kernel⟩

end Biscuit.C15
