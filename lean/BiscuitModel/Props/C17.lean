/-
  C17 — key and signature encodings round-trip and reject malformed material.

  Format-level theorems: whether 32 / 33 bytes are a point of the curve is outside the model.
  `pub_string_trailing_rejected` (nothing may follow the key in a public-key string) is the
  property the fixed `from_str` now has; `proto_round_trip` is about the `PublicKey` message that
  `to_proto` + prost emit.
  That a signature verifies only under the matching key and message is the hypothesis on the
  signature scheme (C01), not a theorem; it is observed by the `keys` stream.
-/
import BiscuitModel.Lemmas.WireDec
import BiscuitModel.Props.C14
namespace Biscuit.Keys
open Biscuit Biscuit.Printer Biscuit.Wire

/-! ## public-key strings -/

theorem stripPrefix_append (p s : List Char) : stripPrefix p (p ++ s) = some s := by
  induction p with
  | nil => simp [stripPrefix]
  | cons c cs ih => simp [stripPrefix, ih]

def pubRest (alg : Alg) (rest : List Char) : Verdict :=
  match parseHex rest with
  | some (b, []) => pubBytes alg b
  | _ => .reject

/-- the two prefixes `parsePubString` tries are the two names `printPub` writes -/
theorem parsePubString_print (alg : Alg) (rest : List Char) :
    parsePubString (alg.name ++ '/' :: rest) = pubRest alg rest := by
  cases alg <;> rfl

/-- C17: the printed form of a public key parses back to the same algorithm and bytes -/
theorem pub_string_round_trip (alg : Alg) (b : Bytes) (hne : b ≠ []) :
    parsePubString (printPub alg b) = pubBytes alg b := by
  unfold printPub
  rw [parsePubString_print]
  unfold pubRest
  rw [← List.append_nil (hexEncode b), hex_round_trip b [] hne (by simp)]

/-- the bytes accepted for `alg` (well-formed length and tag) -/
def WellFormedPub (alg : Alg) (b : Bytes) : Prop := pubBytes alg b = .accept alg b

theorem pubBytes_longer_rejected (alg : Alg) (b d : Bytes) (hw : WellFormedPub alg b) (hd : d ≠ []) :
    pubBytes alg (b ++ d) = .reject := by
  -- `b` has the one length accepted after its first byte; `b ++ d` is longer
  have hlen : ∀ n, b.length = n → (b ++ d).length ≠ n := by
    intro n hn
    rw [List.length_append, hn]
    exact Nat.ne_of_gt (Nat.lt_add_of_pos_right (List.length_pos_iff.mpr hd))
  unfold WellFormedPub pubBytes at hw
  unfold pubBytes
  cases alg with
  | ed25519 =>
    dsimp only at hw ⊢
    split at hw
    · next h32 => exact if_neg (hlen 32 h32)
    · cases hw
  | secp256r1 =>
    cases b with
    | nil => cases hw
    | cons t ts =>
      dsimp only [List.cons_append] at hw ⊢
      split at hw
      · next h33 =>
        rw [if_neg fun h => hlen 33 h33.1 h.1, if_neg]
        rintro ⟨_, rfl⟩
        exact h33.2.elim (by decide) (by decide)
      · split at hw <;> cases hw

theorem decodePairs_ne_nil (e : List Char) (h : decodePairs e = some []) : e = [] := by
  cases e with
  | nil => rfl
  | cons a e =>
    cases e with
    | nil => cases h
    | cons b rest =>
      unfold decodePairs at h
      split at h <;> cases h

/-- C17: nothing may follow the key — whatever is appended to a printed public key, the
    string is refused -/
theorem pub_string_trailing_rejected (alg : Alg) (b : Bytes) (extra : List Char)
    (hw : WellFormedPub alg b) (hne : b ≠ []) (hx : extra ≠ []) :
    parsePubString (printPub alg b ++ extra) = .reject := by
  have hshape : printPub alg b ++ extra = alg.name ++ '/' :: (hexEncode b ++ extra) := by simp [printPub]
  rw [hshape, parsePubString_print, pubRest, parseHex_hexEncode_append b hne]
  cases hdec : decodePairs (extra.takeWhile isHexDigit) with
  | none => rfl
  | some d =>
    cases ht : extra.dropWhile isHexDigit with
    | cons t ts => rfl
    | nil =>
      -- all of `extra` is hex digits, and they decode to at least one more byte
      have hall : extra.takeWhile isHexDigit = extra := by
        have := List.takeWhile_append_dropWhile (p := isHexDigit) (l := extra)
        rwa [ht, List.append_nil] at this
      exact pubBytes_longer_rejected alg b d hw fun hd => hx (hall ▸ decodePairs_ne_nil _ (hd ▸ hdec))

example : WellFormedPub .ed25519 (List.replicate 32 7) ∧ WellFormedPub .secp256r1 (2 :: List.replicate 32 7) := by
  constructor <;> (unfold WellFormedPub; decide +kernel)

/-! ## private-key strings -/

theorem splitOnce_name (alg : Alg) (rest : List Char) : splitOnce (alg.name ++ '/' :: rest) = some (alg.name, rest) := by
  cases alg <;> rfl

/-- C17: `to_prefixed_string` parses back to the same algorithm and bytes -/
theorem priv_string_round_trip (alg : Alg) (b : Bytes) :
    parsePrivString (printPub alg b) = privBytes alg b := by
  unfold printPub parsePrivString
  rw [splitOnce_name]
  cases alg with
  | ed25519 => simp [privHex, hexDecode, decodePairs_hexEncode]
  | secp256r1 =>
    have : Alg.name .secp256r1 ≠ Alg.name .ed25519 := by decide
    simp [privHex, hexDecode, decodePairs_hexEncode, this]

theorem priv_string_unknown_algorithm (a h : List Char) (h1 : a ≠ Alg.name .ed25519) (h2 : a ≠ Alg.name .secp256r1)
    (s : List Char) (hs : splitOnce s = some (a, h)) : parsePrivString s = .reject := by
  simp [parsePrivString, hs, h1, h2]

/-! ## lengths -/

theorem wrong_length_rejected_ed25519 (b : Bytes) (h : b.length ≠ 32) :
    pubBytes .ed25519 b = .reject ∧ privBytes .ed25519 b = .reject := by
  simp [pubBytes, privBytes, h]

theorem wrong_length_rejected_secp256r1 (b : Bytes) (h33 : b.length ≠ 33) (h65 : b.length ≠ 65) :
    pubBytes .secp256r1 b = .reject := by
  unfold pubBytes
  cases b with
  | nil => rfl
  | cons t ts => simp only; rw [if_neg (fun h => h33 h.1), if_neg (fun h => h65 h.1)]

theorem wrong_length_rejected_secp256r1_private (b : Bytes) (h : b.length ≠ 32) :
    privBytes .secp256r1 b = .reject := by
  simp [privBytes, h]

/-! ## protobuf -/

/-- C17: the protobuf form of a public key decodes to the same algorithm and bytes -/
theorem proto_round_trip (alg : Alg) (b : Bytes) (hb : b.length < 2 ^ 64) :
    pubProto (encPubKey ⟨alg.tag, b⟩) = pubBytes alg b := by
  have := decAll_encPubKey ⟨alg.tag, b⟩ (show alg.tag < UInt64.size by cases alg <;> decide) hb
  unfold decAll at this
  unfold pubProto decPubKeyMsg
  rw [this]
  cases alg <;> rfl

theorem proto_unknown_algorithm_rejected (bs : Bytes) (a : Nat) (k : Bytes) (h : decPubKeyMsg bs = some (a, k))
    (h0 : a ≠ 0) (h1 : a ≠ 1) : pubProto bs = .reject := by
  simp [pubProto, h, h0, h1]

example : pubProto (encPubKey ⟨Alg.tag .secp256r1, 3 :: List.replicate 32 9⟩)
    = .accept .secp256r1 (3 :: List.replicate 32 9) := by
  rw [proto_round_trip .secp256r1 _ (by decide)]; decide +kernel

/-! ## DER (ed25519 public keys) -/

theorem der_ed25519_round_trip (b : Bytes) (h : b.length = 32) :
    parseDerPubEd25519 (derPubEd25519 b) = .accept .ed25519 b := by
  have h12 : ed25519SpkiPrefix.length = 12 := rfl
  rw [parseDerPubEd25519, derPubEd25519, List.take_left' h12, List.drop_left' h12,
    if_pos ⟨rfl, by rw [List.length_append, h12, h]⟩]

theorem der_ed25519_wrong_frame_rejected (d : Bytes) (h : d.take 12 ≠ ed25519SpkiPrefix ∨ d.length ≠ 44) :
    parseDerPubEd25519 d = .reject := by
  unfold parseDerPubEd25519
  rw [if_neg]
  rintro ⟨h1, h2⟩
  rcases h with h | h
  · exact h h1
  · exact h h2

end Biscuit.Keys
