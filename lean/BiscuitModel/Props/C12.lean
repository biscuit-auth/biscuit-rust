/-
  C12 — a token means the same in memory and after a round trip, on every API path.

  What differs between the in-memory token and the reloaded one can only be the symbol and
  public-key tables (the blocks' bytes are the same): the theorems show that the tables kept
  in memory are exactly what deserialization rebuilds from the blocks' declarations, after any
  history of operations, and that tokens redeclaring a symbol or key are refused.
-/
import BiscuitModel.Lemmas.Intern
namespace Biscuit.C12
open Biscuit

/-- the fold is the key check of `reloadTables` -/
theorem keyFold_nodup (nk keys : List Nat) (h : (keys ++ nk).Nodup) :
    nk.foldl (fun acc k => acc.bind fun ks => if ks.contains k then none else some (ks ++ [k])) (some keys) = some (keys ++ nk) :=
  foldl_snoc_fresh some nk keys (fun acc k _ hn => by simp [hn]) h

/-- a first-party declaration that extends well-formed tables is accepted by deserialization,
    which rebuilds exactly the extended tables -/
theorem reload_step (syms ns : List Str) (keys nk : List Nat) (rest : List BlockDecl)
    (hw : WFt ⟨⟨syms ++ ns⟩, keys ++ nk⟩) :
    reloadTables (⟨ns, nk, false⟩ :: rest) syms keys = reloadTables rest (syms ++ ns) (keys ++ nk) := by
  have h1 : (ns.any fun s => Gen.defaultSymbols.contains s) = false :=
    List.any_eq_false.2 fun s hs hc =>
      indexOf_eq_none.1 (hw.noDefault s (List.mem_append_right _ hs)) (List.contains_iff_mem.1 hc)
  have h2 : (ns.any fun s => syms.contains s) = false :=
    List.any_eq_false.2 fun s hs hc =>
      (List.nodup_append.1 hw.symsNodup).2.2 s (List.contains_iff_mem.1 hc) s hs rfl
  rw [reloadTables, if_neg Bool.false_ne_true, h1, h2, Bool.or_self, if_neg Bool.false_ne_true,
    keyFold_nodup nk keys hw.keysNodup]

/-- the declaration that `append` and `build` write -/
theorem reload_ext {t t' : ITable} (he : Ext t t') (hw : WFt t') (rest : List BlockDecl) :
    reloadTables (⟨t'.syms.symbols.drop t.syms.symbols.length, t'.keys.drop t.keys.length, false⟩ :: rest)
        t.syms.symbols t.keys = reloadTables rest t'.syms.symbols t'.keys := by
  obtain ⟨ns, nk, e1, e2⟩ := he
  rw [e1, e2, List.drop_left, List.drop_left]
  exact reload_step _ ns _ nk rest ⟨e1 ▸ hw.noDefault, e1 ▸ hw.symsNodup, e2 ▸ hw.keysNodup⟩

/-- a third-party declaration is skipped: it neither reads nor extends the token's tables -/
theorem reload_third_party (d : BlockDecl) (hd : d.thirdParty = true) (rest : List BlockDecl) (syms : List Str) (keys : List Nat) :
    reloadTables (d :: rest) syms keys = reloadTables rest syms keys := by
  simp [reloadTables, hd]

theorem reloadTables_append (bs ds : List BlockDecl) (syms : List Str) (keys : List Nat) :
    reloadTables (bs ++ ds) syms keys = (reloadTables bs syms keys).bind fun r => reloadTables ds r.1 r.2 := by
  fun_induction reloadTables bs syms keys <;>
    simp only [reloadTables, List.cons_append, List.nil_append, Option.bind_some, Option.bind_none, Bool.false_eq_true, ↓reduceIte, *]

structure Inv (t : TokSyms) : Prop where
  wf : WFt t.table
  same : t.reload = some (t.syms, t.keys)

theorem reload_snoc {t : TokSyms} (h : Inv t) (d : BlockDecl) :
    reloadTables (t.blocks ++ [d]) [] [] = reloadTables [d] t.syms t.keys := by
  rw [reloadTables_append, show reloadTables t.blocks [] [] = _ from h.same]
  rfl

/-- **append** (verified or unverified API) -/
theorem inv_append (pool : List Str) (t : TokSyms) (b : Block) (h : Inv t) : Inv (t.append pool b) :=
  have ⟨he, hw⟩ := internBlockBuild_good pool t.table b
  ⟨hw h.wf, (reload_snoc h _).trans (reload_ext he (hw h.wf) [])⟩

/-- **build**: an append to the empty token -/
theorem inv_build (pool : List Str) (b : Block) : Inv (TokSyms.build pool b) :=
  inv_append pool ⟨[], [], []⟩ b ⟨wf_empty, rfl⟩

/-- **append_third_party** (verified or unverified API): the token's tables do not change, and
    the reloaded token has the same tables -/
theorem inv_append_third_party (pool : List Str) (t : TokSyms) (b : Block) (h : Inv t) :
    Inv (t.appendThirdParty pool b) ∧ (t.appendThirdParty pool b).syms = t.syms ∧ (t.appendThirdParty pool b).keys = t.keys :=
  ⟨⟨h.wf, (reload_snoc h _).trans (reload_third_party _ rfl [] _ _)⟩, rfl, rfl⟩

inductive SymOp where
  | append (b : Block)
  | appendThirdParty (b : Block)

def applySymOp (pool : List Str) (t : TokSyms) : SymOp → TokSyms
  | .append b => t.append pool b
  | .appendThirdParty b => t.appendThirdParty pool b

/-- **At every step of any history of build, append and append-third-party operations the
    in-memory tables equal the reloaded ones** — so string and key references of every block
    resolve identically in memory and after a round trip. -/
theorem history_inv (pool : List Str) (b0 : Block) (ops : List SymOp) :
    Inv (ops.foldl (applySymOp pool) (TokSyms.build pool b0)) := by
  have : ∀ (ops : List SymOp) (t : TokSyms), Inv t → Inv (ops.foldl (applySymOp pool) t) := by
    intro ops
    induction ops with
    | nil => intro t h; exact h
    | cons op rest ih =>
      intro t h
      simp only [List.foldl_cons]
      apply ih
      cases op with
      | append b => exact inv_append pool t b h
      | appendThirdParty b => exact (inv_append_third_party pool t b h).1
  exact this ops _ (inv_build pool b0)

/-! ## redeclaration is refused -/

theorem redeclared_string_refused (d : BlockDecl) (hd : d.thirdParty = false) (s : Str) (hs : s ∈ d.syms)
    (rest : List BlockDecl) (syms : List Str) (h : s ∈ Gen.defaultSymbols ∨ s ∈ syms) (keys : List Nat) :
    reloadTables (d :: rest) syms keys = none := by
  have : ((d.syms.any fun s => Gen.defaultSymbols.contains s) || d.syms.any fun s => syms.contains s) = true :=
    Bool.or_eq_true_iff.2 (h.imp (fun h => List.any_eq_true.2 ⟨s, hs, List.contains_iff_mem.2 h⟩)
      fun h => List.any_eq_true.2 ⟨s, hs, List.contains_iff_mem.2 h⟩)
  unfold reloadTables
  rw [hd, if_neg Bool.false_ne_true, if_pos this]

/-- a first-party block that redeclares a default symbol -/
theorem redeclared_default_refused (d : BlockDecl) (hd : d.thirdParty = false) (s : Str) (hs : s ∈ d.syms)
    (hdef : s ∈ Gen.defaultSymbols) (rest : List BlockDecl) (syms : List Str) (keys : List Nat) :
    reloadTables (d :: rest) syms keys = none :=
  redeclared_string_refused d hd s hs rest syms (.inl hdef) keys

/-- a first-party block that redeclares a symbol of an earlier first-party block -/
theorem redeclared_symbol_refused (d : BlockDecl) (hd : d.thirdParty = false) (s : Str) (hs : s ∈ d.syms)
    (rest : List BlockDecl) (syms : List Str) (hearlier : s ∈ syms) (keys : List Nat) :
    reloadTables (d :: rest) syms keys = none :=
  redeclared_string_refused d hd s hs rest syms (.inr hearlier) keys

theorem keyFold_none : ∀ (nk : List Nat), nk.foldl (fun acc k => acc.bind fun ks => if ks.contains k then none else some (ks ++ [k])) (none : Option (List Nat)) = none
  | [] => rfl
  | _ :: rest => keyFold_none rest

theorem keyFold_dup : ∀ (nk keys : List Nat) (k : Nat), k ∈ nk → k ∈ keys →
    nk.foldl (fun acc k => acc.bind fun ks => if ks.contains k then none else some (ks ++ [k])) (some keys) = none := by
  intro nk
  induction nk with
  | nil => intro keys k h; cases h
  | cons x rest ih =>
    intro keys k hk hin
    simp only [List.foldl_cons, Option.bind_some]
    by_cases hx : keys.contains x = true
    · simp only [hx, if_true]; exact keyFold_none rest
    · simp only [hx, Bool.false_eq_true, if_false]
      cases hk with
      | head => exact absurd (List.contains_iff_mem.2 hin) hx
      | tail _ hk' => exact ih (keys ++ [x]) k hk' (List.mem_append_left _ hin)

/-- a first-party block that redeclares a public key of an earlier first-party block -/
theorem redeclared_key_refused (d : BlockDecl) (hd : d.thirdParty = false) (k : Nat) (hk : k ∈ d.keys)
    (rest : List BlockDecl) (syms : List Str) (keys : List Nat) (hearlier : k ∈ keys) :
    reloadTables (d :: rest) syms keys = none := by
  unfold reloadTables
  rw [hd, if_neg Bool.false_ne_true]
  split
  · rfl
  · rw [keyFold_dup d.keys keys k hk hearlier]

/-! ## non-vacuity -/

example : (TokSyms.build [[102], [120]] ⟨[⟨0, [.str 1]⟩], [], [], [.publicKey 7], none⟩).syms = [[102], [120]] := by decide +kernel

end Biscuit.C12
