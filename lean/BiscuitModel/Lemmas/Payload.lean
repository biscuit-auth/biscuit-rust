/-
  Signature payloads as concatenations of fields: a payload determines its fields as soon as all
  of them but one have lengths known in advance (tags, `le32`, keys and signatures of an algorithm).
-/
import BiscuitModel.Model.Crypto
namespace Biscuit
open Gen (le32)

theorem le32_length (n : Nat) : (le32 n).length = 4 := rfl

/-- `le32` has a left inverse below 2^32: the little-endian value of its four bytes -/
theorem le32_injective {a b : Nat} (ha : a < 4294967296) (hb : b < 4294967296) (h : le32 a = le32 b) : a = b := by
  have inv : ∀ n, n < 4294967296 → ((le32 n).map UInt8.toNat).foldr (fun x acc => x + 256 * acc) 0 = n := by
    intro n hn
    have h3 : n / 16777216 % 256 = n / 16777216 := Nat.mod_eq_of_lt (Nat.div_lt_of_lt_mul hn)
    have e3 : n / 16777216 = n / 65536 / 256 := (Nat.div_div_eq_div_mul n 65536 256).symm
    have e2 : n / 65536 = n / 256 / 256 := (Nat.div_div_eq_div_mul n 256 256).symm
    simp only [le32, List.map_cons, List.map_nil, List.foldr_cons, List.foldr_nil, UInt8.toNat_ofNat', Nat.reducePow,
      Nat.mod_mod, h3, Nat.mul_zero, Nat.add_zero]
    rw [e3, Nat.mod_add_div, e2, Nat.mod_add_div, Nat.mod_add_div]
  rw [← inv a ha, ← inv b hb, h]

theorem PubKey.eq_of {k k' : PubKey} (ha : k.alg < 4294967296) (ha' : k'.alg < 4294967296)
    (h : le32 k.alg = le32 k'.alg) (hb : k.bytes = k'.bytes) : k = k' := by
  cases k; cases k'; cases hb; cases le32_injective ha ha' h; rfl

theorem foldl_append_eq {α : Type} (l : List (List α)) (a : List α) : l.foldl (· ++ ·) a = a ++ l.flatten := by
  induction l generalizing a with
  | nil => exact (List.append_nil a).symm
  | cons x xs ih => rw [List.foldl_cons, ih, List.flatten_cons, List.append_assoc]

/-- The payload is stated as the fold of `++` over its fields: `f₁ ++ f₂ ++ … ++ fₙ` is that by
    `rfl` (`++` associates to the left). -/
theorem fields_inj {α : Type} {p p' s s' : List (List α)} {d d' : List α}
    (hp : p.map List.length = p'.map List.length) (hs : s.map List.length = s'.map List.length)
    (h : (p ++ d :: s).foldl (· ++ ·) [] = (p' ++ d' :: s').foldl (· ++ ·) []) : p = p' ∧ d = d' ∧ s = s' := by
  have lenf : ∀ {l l' : List (List α)}, l.map List.length = l'.map List.length → l.flatten.length = l'.flatten.length := by
    intro l l' e; rw [List.length_flatten, List.length_flatten, e]
  simp only [foldl_append_eq, List.nil_append, List.flatten_append, List.flatten_cons] at h
  obtain ⟨h1, h2⟩ := List.append_inj h (lenf hp)
  obtain ⟨h3, h4⟩ := List.append_inj' h2 (lenf hs)
  exact ⟨List.eq_iff_flatten_eq.2 ⟨h1, hp⟩, h3, List.eq_iff_flatten_eq.2 ⟨h4, hs⟩⟩

end Biscuit
