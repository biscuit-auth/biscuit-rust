/-
  C02 / C12 — what the reader returns is a normal form.

  `reader_normal_form`: if `proto_block_to_token_block` (its model) returns a block for a
  message, then writing that block and reading it again returns the same block: nothing the
  reader accepts changes under further serialization round trips, whatever the message looked
  like (sets with repeated elements, maps with repeated keys, `Some(0)` check kinds, any order).
-/
import BiscuitModel.Props.C02Convert
import BiscuitModel.Lemmas.List
namespace Biscuit.Convert
open Biscuit

/-! ## freshness as a pairwise property -/

/-- `h0`, `h1`: the shape `freshFrom`, `freshKeys` and `nodupNat` share -/
theorem fresh_iff {α : Type} (clash : α → α → Bool) (fresh : List α → List α → Bool)
    (h0 : ∀ acc, fresh acc [] = true)
    (h1 : ∀ acc x xs, fresh acc (x :: xs) = (!acc.any (clash x) && fresh (acc ++ [x]) xs)) (xs acc : List α) :
    fresh acc xs = true ↔
      (∀ x ∈ xs, ∀ a ∈ acc, clash x a = false) ∧ xs.Pairwise (fun a x => clash x a = false) := by
  induction xs generalizing acc with
  | nil => exact ⟨fun _ => ⟨List.forall_mem_nil _, .nil⟩, fun _ => h0 acc⟩
  | cons x xs ih =>
    simp only [h1, Bool.and_eq_true, Bool.not_eq_true', List.any_eq_false, ih, List.mem_append,
      List.mem_cons, List.not_mem_nil, or_false, forall_eq_or_imp, List.pairwise_cons, Bool.not_eq_true]
    constructor
    · rintro ⟨h, hc, hp⟩
      exact ⟨⟨h, fun y hy a ha => hc y hy a (.inl ha)⟩, fun y hy => hc y hy x (.inr rfl), hp⟩
    · rintro ⟨⟨h, hc⟩, hx, hp⟩
      exact ⟨h, fun y hy a ha => ha.elim (hc y hy a) (fun e => e ▸ hx y hy), hp⟩

theorem freshFrom_iff (xs : List Term) : freshFrom [] xs = true ↔ xs.Pairwise (fun a x => Term.beq x a = false) :=
  (fresh_iff Term.beq freshFrom (fun _ => rfl) (fun _ _ _ => rfl) xs []).trans (and_iff_right fun _ _ => List.forall_mem_nil _)

theorem freshKeys_iff (kvs : List (MapKey × Term)) : freshKeys [] kvs = true ↔ (kvs.map (·.1)).Nodup :=
  (fresh_iff (fun kv a => a.1 == kv.1) freshKeys (fun _ => rfl) (fun _ _ _ => by rw [freshKeys]) kvs []).trans
    (by simp only [List.not_mem_nil, false_imp_iff, implies_true, true_and, List.Nodup, List.pairwise_map, beq_eq_false_iff_ne])

theorem nodupNat_iff (ks : List Nat) : nodupNat [] ks = true ↔ ks.Nodup :=
  (fresh_iff (fun k a => k == a) nodupNat (fun _ => rfl) (fun acc k ks => by rw [nodupNat, List.contains_eq_any_beq]) ks []).trans
    (by simp only [List.not_mem_nil, false_imp_iff, implies_true, true_and, List.Nodup, beq_eq_false_iff_ne, ne_comm])

theorem Term.beq_comm (a b : Term) : Term.beq a b = Term.beq b a := by
  cases h : Term.beq a b with
  | true => have := Term.beq_eq a b h; subst this; exact h.symm ▸ rfl
  | false =>
    cases h' : Term.beq b a with
    | false => rfl
    | true => have := Term.beq_eq b a h'; subst this; rw [h] at h'; exact h'

/-! ## what `proto_id_to_token_term` returns -/

theorem kind_of_setIndex (p : PTerm) (n : Nat) (h : setIndex p = .ok n) :
    ∃ k, p.kind? = some k ∧ k ≠ .var ∧ k ≠ .set ∧ n = kindIdx k := by
  cases p with
  | empty | «variable» _ | set _ => cases h
  | _ => exact ⟨_, rfl, by decide, by decide, (Except.ok.inj h).symm⟩

/-- `kindIdx` is read back from the regenerated table on the kinds a set may hold -/
theorem kindIdx_inj (a b : TermK) (ha : a ≠ .var) (ha' : a ≠ .set) (hb : b ≠ .var) (hb' : b ≠ .set) (h : kindIdx a = kindIdx b) : a = b := by
  have inv : ∀ k : TermK, k ≠ .var → k ≠ .set → (Gen.setElemKind.find? fun r => r.2 == kindIdx k).map (·.1) = some k := by
    intro k h1 h2
    cases k with
    | var => exact absurd rfl h1
    | set => exact absurd rfl h2
    | _ => rfl
  exact Option.some.inj ((inv a ha ha').symm.trans (h ▸ inv b hb hb'))

/-- the invariant of `protoToSet` on the elements gathered so far; `k` is the kind seen, if any -/
structure SetInv (k : Option TermK) (acc : List Term) : Prop where
  ok : termsOK acc = true
  elems : ∀ x ∈ acc, setElemOK x = true
  kinds : ∀ x ∈ acc, some x.kind = k
  fresh : freshFrom [] acc = true

theorem termsOK_append (a b : List Term) : termsOK (a ++ b) = (termsOK a && termsOK b) := by
  induction a with
  | nil => simp [termsOK]
  | cons x xs ih => simp only [List.cons_append, termsOK, ih, Bool.and_assoc]

theorem setElemOK_of_kind (t : Term) (h1 : t.kind ≠ .var) (h2 : t.kind ≠ .set) : setElemOK t = true := by
  cases t <;> first | rfl | (exact absurd rfl h1) | (exact absurd rfl h2)

theorem setInsert_inv (acc : List Term) (t : Term) (k : Option TermK) (h : SetInv k acc) (ht : termOK t = true)
    (hnv : t.kind ≠ .var) (hns : t.kind ≠ .set) (hk : acc = [] ∨ k = some t.kind) : SetInv (some t.kind) (setInsert acc t) := by
  have hk' : ∀ x ∈ acc, some x.kind = some t.kind := by
    rcases hk with rfl | rfl
    · exact List.forall_mem_nil _
    · exact h.kinds
  unfold setInsert
  split
  · exact ⟨h.ok, h.elems, hk', h.fresh⟩
  · next hn =>
    refine ⟨by rw [termsOK_append, h.ok, termsOK, ht]; rfl,
      List.forall_mem_append.2 ⟨h.elems, List.forall_mem_singleton.2 (setElemOK_of_kind t hnv hns)⟩,
      List.forall_mem_append.2 ⟨hk', List.forall_mem_singleton.2 rfl⟩, ?_⟩
    -- appending an element that is not there keeps a list duplicate-free
    refine (freshFrom_iff _).mpr
      (List.pairwise_append.mpr ⟨(freshFrom_iff acc).mp h.fresh, List.pairwise_singleton .., fun a ha x hx => ?_⟩)
    cases List.mem_singleton.mp hx
    exact Bool.eq_false_iff.mpr (List.any_eq_false.mp (Bool.eq_false_iff.mpr hn) a ha)

theorem SetInv.set_ok {k : Option TermK} {s : List Term} (h : SetInv k s) : termOK (.set s) = true := by
  simp only [termOK, Bool.and_eq_true, List.all_eq_true, beq_iff_eq]
  refine ⟨⟨⟨h.ok, h.elems⟩, fun x hx => ?_⟩, h.fresh⟩
  cases s with
  | nil => cases hx
  | cons y ys => exact Option.some.inj ((h.kinds x hx).trans (h.kinds y List.mem_cons_self).symm)

/-- the invariant of `protoToMap` -/
structure MapInv (acc : List (MapKey × Term)) : Prop where
  ok : kvsOK acc = true
  fresh : freshKeys [] acc = true

theorem mapInsert_keys (acc : List (MapKey × Term)) (k : MapKey) (t : Term) :
    (mapInsert acc k t).map (·.1) = if k ∈ acc.map (·.1) then acc.map (·.1) else acc.map (·.1) ++ [k] := by
  induction acc with
  | nil => rfl
  | cons kv r ih =>
    obtain ⟨k', t'⟩ := kv
    rw [mapInsert]
    by_cases h : k' = k
    · subst h
      rw [if_pos rfl, List.map_cons, List.map_cons, if_pos List.mem_cons_self]
    · rw [if_neg h, List.map_cons, ih, List.map_cons]
      by_cases hm : k ∈ r.map (·.1)
      · rw [if_pos hm, if_pos (List.mem_cons_of_mem _ hm)]
      · rw [if_neg hm, if_neg fun hc => (List.mem_cons.1 hc).elim (fun e => h e.symm) hm]
        rfl

theorem mapInsert_ok (acc : List (MapKey × Term)) (k : MapKey) (t : Term) (h : kvsOK acc = true) (ht : termOK t = true) :
    kvsOK (mapInsert acc k t) = true := by
  induction acc with
  | nil => rw [mapInsert, kvsOK, ht]; rfl
  | cons a r ih =>
    obtain ⟨k', t'⟩ := a
    rw [kvsOK, Bool.and_eq_true] at h
    rw [mapInsert]
    split
    · rw [kvsOK, ht, h.2]; rfl
    · rw [kvsOK, h.1, ih h.2]; rfl

theorem mapInsert_inv (acc : List (MapKey × Term)) (k : MapKey) (t : Term) (h : MapInv acc) (ht : termOK t = true) :
    MapInv (mapInsert acc k t) := by
  refine ⟨mapInsert_ok acc k t h.ok ht, ?_⟩
  · have hf := (freshKeys_iff acc).mp h.fresh
    rw [freshKeys_iff, mapInsert_keys]
    split
    · exact hf
    · next hn => exact nodup_snoc.2 ⟨hn, hf⟩

mutual
theorem decoded_term_ok : (p : PTerm) → (t : Term) → protoToTerm p = .ok t → termOK t = true ∧ p.kind? = some t.kind
  | .empty => fun t h => nomatch h
  | .variable _ | .integer _ | .string _ | .date _ | .bytes _ | .bool _ | .null => fun t h => by
    cases h; exact ⟨rfl, rfl⟩
  | .set xs => fun t h => by
    unfold protoToTerm at h
    split at h
    · rename_i s hs
      cases h
      obtain ⟨k, hinv⟩ := decoded_set_inv xs none [] s none hs (.inl ⟨rfl, rfl, rfl⟩) (SetInv.mk rfl (List.forall_mem_nil _) (List.forall_mem_nil _) rfl)
      exact ⟨hinv.set_ok, rfl⟩
    · cases h
  | .array xs => fun t h => by
    unfold protoToTerm at h
    split at h
    · rename_i a ha
      cases h
      exact ⟨decoded_terms_ok xs a ha, rfl⟩
    · cases h
  | .map es => fun t h => by
    unfold protoToTerm at h
    split at h
    · rename_i m hm
      cases h
      have := decoded_map_inv es [] m hm (MapInv.mk rfl rfl)
      exact ⟨Bool.and_eq_true _ _ ▸ ⟨this.ok, this.fresh⟩, rfl⟩
    · cases h
theorem decoded_terms_ok : (ps : List PTerm) → (ts : List Term) → protoToTerms ps = .ok ts → termsOK ts = true
  | [] => fun ts h => by cases h; rfl
  | p :: ps => fun ts h => by
    unfold protoToTerms at h
    split at h
    · cases h
    · rename_i t ht
      split at h
      · rename_i ts' hts
        cases h
        simp only [termsOK, Bool.and_eq_true]
        exact ⟨(decoded_term_ok p t ht).1, decoded_terms_ok ps ts' hts⟩
      · cases h
theorem decoded_set_inv : (ps : List PTerm) → (kind : Option Nat) → (acc s : List Term) → (k : Option TermK) →
    protoToSet ps kind acc = .ok s →
    ((kind = none ∧ k = none ∧ acc = []) ∨ (∃ kk, k = some kk ∧ kk ≠ .var ∧ kk ≠ .set ∧ kind = some (kindIdx kk))) →
    SetInv k acc → ∃ k', SetInv k' s
  | [] => fun kind acc s k h _ hinv => by
    cases h; exact ⟨k, hinv⟩
  | p :: ps => fun kind acc s k h hk hinv => by
    unfold protoToSet at h
    split at h
    · cases h
    rename_i idx hidx
    obtain ⟨hmix, h⟩ := ok_of_ite h
    split at h
    · cases h
    rename_i t ht
    obtain ⟨pk, hpk, hnv, hns, hidx'⟩ := kind_of_setIndex p idx hidx
    obtain ⟨htok, htk⟩ := decoded_term_ok p t ht
    cases Option.some.inj (hpk.symm.trans htk)
    refine decoded_set_inv ps (some idx) (setInsert acc t) s (some t.kind) h (.inr ⟨_, rfl, hnv, hns, by rw [hidx']⟩)
      (setInsert_inv acc t k hinv htok hnv hns ?_)
    rcases hk with ⟨_, _, hnil⟩ | ⟨kk, hkk, hkv, hks, hkind⟩
    · exact .inl hnil
    · -- no mix: the index of the loop's kind is the index of this element's kind
      have hsame : kindIdx kk = idx := Decidable.byContradiction fun hne => hmix (by
        rw [hkind, Option.isSome_some, Bool.true_and, bne_iff_ne]
        exact fun e => hne (Option.some.inj e))
      exact .inr (hkk.trans (congrArg some (kindIdx_inj kk t.kind hkv hks hnv hns (hsame.trans hidx'))))
theorem decoded_map_inv : (es : List (Option MapKey × PTerm)) → (acc m : List (MapKey × Term)) →
    protoToMap es acc = .ok m → MapInv acc → MapInv m
  | [] => fun acc m h hinv => by cases h; exact hinv
  | (k, p) :: es => fun acc m h hinv => by
    unfold protoToMap at h
    split at h
    · cases h
    · rename_i k'
      split at h
      · cases h
      · rename_i t ht
        exact decoded_map_inv es (mapInsert acc k' t) m h (mapInsert_inv acc k' t hinv (decoded_term_ok p t ht).1)
end

/-! ## operators, predicates, scopes, rules, checks -/

mutual
theorem decoded_op_ok : (o : POp) → (x : Op) → protoToOp o = .ok x → opOK x = true
  | .empty => fun x h => nomatch h
  | .value t => fun x h => by
    unfold protoToOp at h
    split at h
    · rename_i t' ht
      cases h
      simp only [opOK]; exact (decoded_term_ok t t' ht).1
    · cases h
  | .unary k f | .binary k f => fun x h => by
    unfold protoToOp at h
    split at h
    · cases h; rfl
    · cases h
  | .closure ps ops => fun x h => by
    unfold protoToOp at h
    split at h
    · rename_i os hos
      cases h
      simp only [opOK]; exact decoded_ops_ok ops os hos
    · cases h
theorem decoded_ops_ok : (os : List POp) → (xs : List Op) → protoToOps os = .ok xs → opsOK xs = true
  | [] => fun xs h => by cases h; rfl
  | o :: os => fun xs h => by
    unfold protoToOps at h
    split at h
    · cases h
    · rename_i x hx
      split at h
      · rename_i xs' hxs
        cases h
        simp only [opsOK, Bool.and_eq_true]
        exact ⟨decoded_op_ok o x hx, decoded_ops_ok os xs' hxs⟩
      · cases h
end

theorem decoded_pred_ok (p : PPred) (q : Predicate) (h : protoToPred p = .ok q) : predOK q = true := by
  unfold protoToPred at h
  split at h
  · rename_i ts hts
    cases h
    exact decoded_terms_ok p.terms ts hts
  · cases h

theorem decoded_scope_ok (s : PScope) (x : Scope) (h : protoToScope s = .ok x) : scopeOK x = true := by
  cases s with
  | empty => simp [protoToScope] at h
  | scopeType i =>
    simp only [protoToScope] at h
    split at h
    · cases h; rfl
    · split at h
      · cases h; rfl
      · cases h
  | publicKey i =>
    simp only [protoToScope, Except.ok.injEq] at h
    subst h
    exact decide_eq_true ((Int.toNat_lt (Int.emod_nonneg _ (by decide))).mpr (Int.emod_lt_of_pos _ (by decide)))

theorem decoded_rule_ok (v : Nat) (r : PRule) (q : QRule) (h : protoToRule v r = .ok q) : ruleOK v q = true := by
  obtain ⟨hbody, hexprs, _, hscopes, hhead⟩ := (protoToRule_ok_iff ..).mp h
  simp only [ruleOK, Bool.and_eq_true, Bool.not_eq_true', Bool.and_eq_false_imp, decide_eq_true_eq]
  exact ⟨⟨⟨⟨decoded_pred_ok _ _ hhead, all_of_mapR hbody decoded_pred_ok⟩, all_of_mapR hexprs decoded_ops_ok⟩,
    all_of_mapR hscopes decoded_scope_ok⟩, fun hv => by rw [rule_scopes_gate v r q h hv]; rfl⟩

theorem decoded_check_ok (v : Nat) (c : PCheck) (ck : Check) (h : protoToCheck v c = .ok ck) : checkOK v ck = true :=
  all_of_mapR ((protoToCheck_ok_iff ..).mp h).1 (decoded_rule_ok v)

theorem loadKeys_nodup : ∀ (ks : List (Option Nat)) (acc r : List Nat), loadKeys ks acc = .ok r → acc.Nodup → r.Nodup := by
  intro ks
  induction ks with
  | nil => intro acc r h hn; cases h; exact hn
  | cons k ks ih =>
    intro acc r h hn
    cases k with
    | none => cases h
    | some k =>
      unfold loadKeys at h
      obtain ⟨hc, h⟩ := ok_of_ite h
      exact ih (acc ++ [k]) r h (nodup_snoc.2 ⟨fun ha => hc (List.contains_iff_mem.2 ha), hn⟩)

/-! ## the normal form -/

theorem ReadsCore.content {v : Nat} {pf pr pc ps} {c : Block} (h : ReadsCore v pf pr pc ps c) :
    ((c.facts.all predOK = true ∧ c.rules.all (ruleOK v) = true) ∧ c.checks.all (checkOK v) = true) ∧ c.scopes.all scopeOK = true :=
  ⟨⟨⟨all_of_mapR h.facts decoded_pred_ok, all_of_mapR h.rules (decoded_rule_ok v)⟩,
    all_of_mapR h.checks (decoded_check_ok v)⟩, all_of_mapR h.scopes decoded_scope_ok⟩

/-- everything the reader returns is what the in-memory types can hold -/
theorem accepted_content_ok (p : PBlock) (ext : Option Nat) (b : TBlock) (h : protoToBlock p ext = .ok b) : contentOK b = true := by
  obtain ⟨_, _, hcore, _, _, hkeys, hsym, _, hsy, _, _⟩ := (protoToBlock_ok_iff ..).mp h
  simp only [contentOK, Bool.and_eq_true, Bool.not_eq_true']
  exact ⟨⟨hcore.content, (nodupNat_iff _).mpr (loadKeys_nodup _ _ _ hkeys List.nodup_nil)⟩, hsy ▸ hsym⟩

/-- **What the reader returns is a normal form**: writing it and reading it again gives it back. -/
theorem reader_normal_form (p : PBlock) (ext : Option Nat) (b : TBlock) (h : protoToBlock p ext = .ok b) :
    protoToBlock (blockToProto b) ext = .ok b := by
  obtain ⟨hg, he, _⟩ := accepted_passes_gate p ext b h
  have hc := accepted_content_ok p ext b h
  have := block_round_trip b (by rw [he]; exact hg) hc
  rw [he] at this
  exact this

/-- a message with a repeated set element, a repeated map key and an explicit default check kind is
    read, and what is read is stable -/
example :
    let p : PBlock := ⟨[], none, some 6, [⟨1024, [.set [.integer 1, .integer 1, .integer 2], .map [(some (.int 1), .integer 1), (some (.int 1), .integer 2)]]⟩],
      [], [⟨[], some 0⟩], [], []⟩
    (match protoToBlock p none with
     | .ok b => (match protoToBlock (blockToProto b) none with | .ok b' => b'.core.facts == b.core.facts | .error _ => false)
     | .error _ => false) = true := by decide +kernel

/-! ## the same for snapshot blocks (C13) -/

theorem snapshot_accepted_content_ok (p : PSnapBlock) (b : TBlock) (h : protoToSnapshotBlock p = .ok b) :
    contentOK b = true ∧ b.symbols = [] ∧ b.publicKeys = [] := by
  obtain ⟨_, _, hcore, _, _, _, hsy, _, hpk⟩ := (protoToSnapshotBlock_ok_iff ..).mp h
  refine ⟨?_, hsy, hpk⟩
  simp only [contentOK, Bool.and_eq_true, Bool.not_eq_true', hsy, hpk]
  exact ⟨⟨hcore.content, rfl⟩, rfl⟩

/-- **A snapshot block that was read is a normal form too**: restoring, snapshotting and restoring
    again gives the same block. -/
theorem snapshot_reader_normal_form (p : PSnapBlock) (b : TBlock) (h : protoToSnapshotBlock p = .ok b) :
    protoToSnapshotBlock (snapshotBlockToProto b) = .ok b := by
  obtain ⟨hc, hs, hk⟩ := snapshot_accepted_content_ok p b h
  exact snapshot_block_round_trip b hs hk (snapshot_accepted_passes_gate p b h) hc

end Biscuit.Convert
