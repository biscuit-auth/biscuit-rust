/-
  The wire decoder inverts the wire encoder (C02, C17).

  A message is the list of its fields: `decAll_fields` says the field splitter returns that list
  for whatever `encField` writes, and every encoder of `Model/Wire` writes such a list
  (`encPubKey_eq` … `encContainer_eq`).  What is left for each message is a computation of the
  getters over a short list.
-/
import BiscuitModel.Model.WireDec
import BiscuitModel.Lemmas.Varint
namespace Biscuit.Wire
open Biscuit Biscuit.Keys Gen.Field

/-! ## the field splitter, field by field -/

theorem decFields_fuel_irrel : ∀ (f g : Nat) (bs : Bytes), bs.length < f → bs.length < g → decFields f bs = decFields g bs := by
  intro f
  induction f with
  | zero => exact fun _ _ hf _ => absurd hf (Nat.not_lt_zero _)
  | succ f ih =>
    intro g bs hf hg
    cases g with
    | zero => exact absurd hg (Nat.not_lt_zero _)
    | succ g =>
      cases bs with
      | nil => rfl
      | cons b bs =>
        rw [decFields_step f _ (List.cons_ne_nil b bs), decFields_step g _ (List.cons_ne_nil b bs)]
        cases h : decField (b :: bs) with
        | none => rfl
        | some p =>
          -- what follows the field is shorter: both sides go on with enough fuel
          have hp := decField_shorter h
          rw [Option.bind_some, Option.bind_some, ih g p.2
            (Nat.lt_of_lt_of_le hp (Nat.le_of_lt_succ hf)) (Nat.lt_of_lt_of_le hp (Nat.le_of_lt_succ hg))]

theorem decAll_nil : decAll [] = some [] := rfl

theorem decAll_of_decField {bs rest : Bytes} {x : Nat × WVal} (h : decField bs = some (x, rest)) :
    decAll bs = (decAll rest).map (x :: ·) := by
  have hl := decField_shorter h
  rw [decAll, decFields_step _ _ (List.ne_nil_of_length_pos (Nat.zero_lt_of_lt hl)), h, Option.bind_some, decAll,
    decFields_fuel_irrel bs.length (rest.length + 1) rest hl (Nat.lt_succ_self _)]

/-! ## a message as the list of its fields -/

def encField : Nat × WVal → Bytes
  | (f, .varint n) => fVarint f n
  | (f, .bytes b) => fBytes f b

/-- a field number whose key can be written, a 64-bit value or length -/
def FieldOK : Nat × WVal → Prop
  | (f, .varint n) => 0 < f ∧ f * 8 < UInt64.size ∧ n < UInt64.size
  | (f, .bytes b) => 0 < f ∧ f * 8 + 2 < UInt64.size ∧ b.length < UInt64.size

/-- how the messages below meet `FieldOK`: a number of the schema (a closed fact) and a size under
    some bound that fits 64 bits -/
theorem FieldOK.bytes {f n : Nat} {b : Bytes} (hb : b.length < n) (hf : 0 < f ∧ f * 8 + 2 < UInt64.size := by decide)
    (hn : n ≤ UInt64.size := by decide) : FieldOK (f, .bytes b) := ⟨hf.1, hf.2, Nat.lt_of_lt_of_le hb hn⟩

theorem FieldOK.varint {f n v : Nat} (hv : v < n) (hf : 0 < f ∧ f * 8 < UInt64.size := by decide) (hn : n ≤ UInt64.size := by decide) :
    FieldOK (f, .varint v) := ⟨hf.1, hf.2, Nat.lt_of_lt_of_le hv hn⟩

theorem decField_encField (x : Nat × WVal) (rest : Bytes) (h : FieldOK x) : decField (encField x ++ rest) = some (x, rest) := by
  obtain ⟨f, v⟩ := x
  cases v with
  | varint n =>
    obtain ⟨hf, hfb, hn⟩ := h
    rw [decField, encField, fVarint, key, List.append_assoc, varint_round_trip (f * 8 + 0) _ hfb]
    dsimp only
    rw [varint_round_trip n rest hn]
    dsimp only
    rw [Nat.add_zero, Nat.mul_div_cancel f (by decide), Nat.mul_mod_left, if_neg (Nat.ne_of_gt hf), if_pos rfl]
  | bytes b =>
    obtain ⟨hf, hfb, hb⟩ := h
    rw [decField, encField, fBytes, key, List.append_assoc, List.append_assoc, varint_round_trip _ _ hfb]
    dsimp only
    rw [varint_round_trip b.length _ hb]
    dsimp only
    rw [Nat.mul_comm, Nat.mul_add_div (by decide), Nat.mul_add_mod, Nat.add_zero, if_neg (Nat.ne_of_gt hf), if_neg (by decide), if_pos rfl,
      if_pos (List.length_append ▸ Nat.le_add_right _ _), List.take_left, List.drop_left]

theorem decAll_fVarint (f n : Nat) (rest : Bytes) (hf : 0 < f) (hfb : f * 8 < 2 ^ 64) (hn : n < 2 ^ 64) :
    decAll (fVarint f n ++ rest) = (decAll rest).map ((f, .varint n) :: ·) :=
  decAll_of_decField (decField_encField (f, .varint n) rest ⟨hf, hfb, hn⟩)

theorem decAll_fBytes (f : Nat) (b rest : Bytes) (hf : 0 < f) (hfb : f * 8 + 2 < 2 ^ 64) (hb : b.length < 2 ^ 64) :
    decAll (fBytes f b ++ rest) = (decAll rest).map ((f, .bytes b) :: ·) :=
  decAll_of_decField (decField_encField (f, .bytes b) rest ⟨hf, hfb, hb⟩)

theorem decAll_fields_append (fs : List (Nat × WVal)) (rest : Bytes) (h : ∀ x ∈ fs, FieldOK x) :
    decAll (fs.flatMap encField ++ rest) = (decAll rest).map (fs ++ ·) := by
  induction fs with
  | nil => show decAll rest = _; cases decAll rest <;> rfl
  | cons x fs ih =>
    rw [List.flatMap_cons, List.append_assoc, decAll_of_decField (decField_encField x _ (h x List.mem_cons_self)),
      ih fun y hy => h y (List.mem_cons_of_mem _ hy)]
    cases decAll rest <;> rfl

theorem decAll_fields (fs : List (Nat × WVal)) (h : ∀ x ∈ fs, FieldOK x) : decAll (fs.flatMap encField) = some fs := by
  have := decAll_fields_append fs [] h
  rwa [List.append_nil, decAll_nil, Option.map_some, List.append_nil] at this

/-- the entries of a repeated length-delimited field -/
def repeated (f : Nat) (bs : List Bytes) : List (Nat × WVal) := bs.map fun b => (f, WVal.bytes b)

theorem decAll_repeated (f : Nat) (hf : 0 < f) (hfb : f * 8 + 2 < 2 ^ 64) :
    ∀ (bs : List Bytes) (rest : Bytes), (∀ b ∈ bs, b.length < 2 ^ 64) →
      decAll (bs.flatMap (fun b => fBytes f b) ++ rest) = (decAll rest).map (repeated f bs ++ ·) := by
  intro bs rest h
  have := decAll_fields_append (repeated f bs) rest fun x hx => by
    obtain ⟨b, hb, rfl⟩ := List.mem_map.mp hx
    exact ⟨hf, hfb, h b hb⟩
  rwa [repeated, List.flatMap_map] at this

def optField {α : Type} (f : Nat) (mk : α → WVal) : Option α → List (Nat × WVal)
  | some a => [(f, mk a)]
  | none => []

theorem optField_ok {α : Type} {f : Nat} {mk : α → WVal} {o : Option α} (h : ∀ a, o = some a → FieldOK (f, mk a)) :
    ∀ x ∈ optField f mk o, FieldOK x := by
  cases o with
  | none => exact List.forall_mem_nil _
  | some a => intro x hx; cases List.mem_singleton.mp hx; exact h a rfl

theorem optField_length_le {α : Type} (f : Nat) (mk : α → WVal) (o : Option α) (n : Nat)
    (h : ∀ a, o = some a → (encField (f, mk a)).length ≤ n) : ((optField f mk o).flatMap encField).length ≤ n := by
  cases o with
  | none => exact Nat.zero_le n
  | some a => simpa [optField] using h a rfl

/-! ## getters over lists of fields -/

theorem getBytes_append (f : Nat) (xs ys : List (Nat × WVal)) (acc : Option Bytes) :
    getBytes f (xs ++ ys) acc = (getBytes f xs acc).bind (getBytes f ys) := by
  induction xs generalizing acc with
  | nil => rfl
  | cons x xs ih =>
    obtain ⟨g, v⟩ := x
    cases v <;> dsimp only [List.cons_append, getBytes] <;> split <;> first | exact ih _ | rfl

theorem getVarint_append (f : Nat) (xs ys : List (Nat × WVal)) (acc : Option Nat) :
    getVarint f (xs ++ ys) acc = (getVarint f xs acc).bind (getVarint f ys) := by
  induction xs generalizing acc with
  | nil => rfl
  | cons x xs ih =>
    obtain ⟨g, v⟩ := x
    cases v <;> dsimp only [List.cons_append, getVarint] <;> split <;> first | exact ih _ | rfl

theorem getAllBytes_append (f : Nat) (xs ys : List (Nat × WVal)) :
    getAllBytes f (xs ++ ys) = (getAllBytes f xs).bind fun a => (getAllBytes f ys).map (a ++ ·) := by
  induction xs with
  | nil => show getAllBytes f ys = _; cases getAllBytes f ys <;> rfl
  | cons x xs ih =>
    obtain ⟨g, v⟩ := x
    cases v <;> dsimp only [List.cons_append, getAllBytes] <;> split <;> try first | exact ih | rfl
    rw [ih]
    cases getAllBytes f xs <;> cases getAllBytes f ys <;> rfl

theorem getBytes_repeated (f g : Nat) (h : g ≠ f) (bs : List Bytes) (acc : Option Bytes) :
    getBytes f (repeated g bs) acc = some acc := by
  induction bs with
  | nil => rfl
  | cons b bs ih => exact (if_neg h).trans ih

theorem getVarint_repeated (f g : Nat) (h : g ≠ f) (bs : List Bytes) (acc : Option Nat) :
    getVarint f (repeated g bs) acc = some acc := by
  induction bs with
  | nil => rfl
  | cons b bs ih => exact (if_neg h).trans ih

theorem getAllBytes_repeated (f : Nat) (bs : List Bytes) : getAllBytes f (repeated f bs) = some bs := by
  induction bs with
  | nil => rfl
  | cons b bs ih => exact (if_pos rfl).trans (congrArg (Option.map (b :: ·)) ih)

/-! ## sizes: an encoded message is not much longer than its byte strings -/

theorem varintAux_length_le (fuel n : Nat) : (varintAux fuel n).length ≤ fuel + 1 := by
  induction fuel generalizing n with
  | zero => exact Nat.le_refl 1
  | succ m ih =>
    rw [varintAux_succ]
    split
    · exact Nat.le_add_left 1 _
    · exact Nat.succ_le_succ (ih _)

theorem varint_length_le (n : Nat) : (varint n).length ≤ 11 := varintAux_length_le 10 n

theorem fBytes_length_le (f : Nat) (b : Bytes) : (fBytes f b).length ≤ 22 + b.length := by
  simp only [fBytes, key, List.length_append]
  exact Nat.add_le_add_right (Nat.add_le_add (varint_length_le _) (varint_length_le _)) _

theorem fBytes_length_lt {f n : Nat} {b : Bytes} (h : b.length < n) : (fBytes f b).length < 22 + n :=
  Nat.lt_of_le_of_lt (fBytes_length_le f b) (Nat.add_lt_add_left h 22)

theorem fVarint_length_le (f n : Nat) : (fVarint f n).length ≤ 22 := by
  simp only [fVarint, key, List.length_append]
  exact Nat.add_le_add (varint_length_le _) (varint_length_le _)

/-! ## messages -/

/-- sizes that fit the length fields: what `SmallContainer` asks of every key, block and proof -/
def SmallKey (k : PubKey) : Prop := k.alg < 2 ^ 32 ∧ k.bytes.length < 2 ^ 32

def SmallExt (e : ExtSig) : Prop := SmallKey e.key ∧ e.sig.length < 2 ^ 32

def SmallBlock (b : SBlock) : Prop :=
  b.data.length < 2 ^ 32 ∧ SmallKey b.nextKey ∧ b.sig.length < 2 ^ 32 ∧
    (∀ e, b.ext = some e → SmallExt e) ∧ (∀ v, b.version = some v → v < 2 ^ 32)

def SmallProof : Proof → Prop
  | .secret sk => sk.length < 2 ^ 32
  | .sealed sig => sig.length < 2 ^ 32

def SmallContainer (c : Container) : Prop :=
  (∀ k, c.rootKeyId = some k → k < 2 ^ 32) ∧ SmallBlock c.authority ∧ (∀ b ∈ c.blocks, SmallBlock b) ∧ SmallProof c.proof

theorem encPubKey_eq (k : PubKey) :
    encPubKey k = [(publicKey_algorithm, WVal.varint k.alg), (publicKey_key, .bytes k.bytes)].flatMap encField := by
  simp [encPubKey, encField]

theorem decAll_encPubKey (k : PubKey) (ha : k.alg < UInt64.size) (hb : k.bytes.length < UInt64.size) :
    decAll (encPubKey k) = some [(publicKey_algorithm, .varint k.alg), (publicKey_key, .bytes k.bytes)] := by
  rw [encPubKey_eq, decAll_fields]
  simp only [List.forall_mem_cons]
  exact ⟨.varint ha, .bytes hb, List.forall_mem_nil _⟩

theorem encPubKey_length (k : PubKey) (h : SmallKey k) : (encPubKey k).length < 2 ^ 33 := by
  rw [encPubKey, List.length_append]
  exact Nat.lt_of_lt_of_le (Nat.add_lt_add_of_le_of_lt (fVarint_length_le _ _) (fBytes_length_lt h.2)) (by decide)

theorem decPubKey_enc (k : PubKey) (h : SmallKey k) : decPubKey (encPubKey k) = some k := by
  have ha := Nat.mod_eq_of_lt h.1
  rw [decPubKey, decAll_encPubKey k (Nat.lt_trans h.1 (by decide)) (Nat.lt_trans h.2 (by decide))]
  simp [getVarint, getBytes, publicKey_algorithm, publicKey_key, ha]

theorem encExtSig_eq (e : ExtSig) :
    encExtSig e = [(externalSignature_signature, WVal.bytes e.sig), (externalSignature_publicKey, .bytes (encPubKey e.key))].flatMap encField := by
  simp [encExtSig, encField]

theorem encExtSig_length (e : ExtSig) (h : SmallExt e) : (encExtSig e).length < 2 ^ 35 := by
  rw [encExtSig, List.length_append]
  exact Nat.lt_of_lt_of_le (Nat.add_lt_add (fBytes_length_lt h.2) (fBytes_length_lt (encPubKey_length e.key h.1))) (by decide)

theorem decExtSig_enc (e : ExtSig) (h : SmallExt e) : decExtSig (encExtSig e) = some e := by
  have hk := encPubKey_length e.key h.1
  have hs := h.2
  rw [decExtSig, encExtSig_eq, decAll_fields _ (by
    simp only [List.forall_mem_cons]
    exact ⟨.bytes hs, .bytes hk, List.forall_mem_nil _⟩)]
  simp [getBytes, externalSignature_signature, externalSignature_publicKey, decPubKey_enc e.key h.1]

theorem encSBlock_eq (b : SBlock) :
    encSBlock b = ([(signedBlock_block, WVal.bytes b.data), (signedBlock_nextKey, .bytes (encPubKey b.nextKey)),
        (signedBlock_signature, .bytes b.sig)] ++ optField signedBlock_externalSignature (fun e => .bytes (encExtSig e)) b.ext ++
      optField signedBlock_version .varint b.version).flatMap encField := by
  cases hx : b.ext <;> cases hv : b.version <;> simp [encSBlock, encField, optField, hx, hv]

theorem encSBlock_length (b : SBlock) (h : SmallBlock b) : (encSBlock b).length < 2 ^ 40 := by
  obtain ⟨hd, hk, hs, he, hv⟩ := h
  have h5 := optField_length_le signedBlock_externalSignature (fun e => .bytes (encExtSig e)) b.ext _ fun e hx =>
    Nat.le_of_lt (fBytes_length_lt (encExtSig_length e (he e hx)))
  have h6 := optField_length_le signedBlock_version .varint b.version 22 fun v _ => fVarint_length_le _ v
  simp only [encSBlock_eq, List.flatMap_append, List.flatMap_cons, List.flatMap_nil, List.length_append, encField, List.length_nil,
    Nat.add_zero]
  exact Nat.lt_of_lt_of_le (Nat.add_lt_add_of_lt_of_le (Nat.add_lt_add_of_lt_of_le (Nat.add_lt_add (fBytes_length_lt hd)
    (Nat.add_lt_add (fBytes_length_lt (encPubKey_length b.nextKey hk)) (fBytes_length_lt hs))) h5) h6) (by decide)

theorem decSBlock_enc (b : SBlock) (h : SmallBlock b) : decSBlock (encSBlock b) = some b := by
  obtain ⟨hd, hk, hs, he, hv⟩ := h
  have hkl := encPubKey_length b.nextKey hk
  rw [decSBlock, encSBlock_eq, decAll_fields _ (by
    simp only [List.forall_mem_append, List.forall_mem_cons]
    exact ⟨⟨⟨.bytes hd, .bytes hkl, .bytes hs, List.forall_mem_nil _⟩,
      optField_ok fun e hx => .bytes (encExtSig_length e (he e hx))⟩,
      optField_ok fun v hx => .varint (hv v hx)⟩)]
  have hm := fun v h => Nat.mod_eq_of_lt (hv v h)
  have hx : ∀ x, b.ext = some x → decExtSig (encExtSig x) = some x := fun x h => decExtSig_enc x (he x h)
  obtain ⟨data, nk, sig, ext, ver⟩ := b
  cases ext <;> cases ver <;>
    simp [optField, getBytes, getVarint, signedBlock_block, signedBlock_nextKey, signedBlock_signature,
      signedBlock_externalSignature, signedBlock_version, decPubKey_enc nk hk, hm, hx]

theorem encProof_eq (p : Proof) :
    encProof p = (match p with
      | .secret sk => [(proof_nextSecret, WVal.bytes sk)]
      | .sealed sig => [(proof_finalSignature, WVal.bytes sig)]).flatMap encField := by
  cases p <;> simp [encProof, encField]

theorem encProof_length (p : Proof) (h : SmallProof p) : (encProof p).length < 2 ^ 33 := by
  cases p <;> exact Nat.lt_of_lt_of_le (fBytes_length_lt h) (by decide)

theorem decProof_enc (p : Proof) (h : SmallProof p) : decProof (encProof p) = some p := by
  rw [decProof, encProof_eq, decAll_fields _ (by
    cases p <;> simp only [List.forall_mem_cons] <;> exact ⟨.bytes h, List.forall_mem_nil _⟩)]
  cases p <;> simp [foldProof, proof_nextSecret, proof_finalSignature]

theorem mapM'_dec (bs : List SBlock) (h : ∀ b ∈ bs, SmallBlock b) : mapM' decSBlock (bs.map encSBlock) = some bs := by
  induction bs with
  | nil => rfl
  | cons b bs ih =>
    simp only [List.map_cons, mapM', decSBlock_enc b (h b List.mem_cons_self),
      ih (fun x hx => h x (List.mem_cons_of_mem _ hx))]

theorem encContainer_eq (c : Container) :
    encContainer c = (optField biscuit_rootKeyId .varint c.rootKeyId ++ [(biscuit_authority, WVal.bytes (encSBlock c.authority))] ++
      repeated biscuit_blocks (c.blocks.map encSBlock) ++ [(biscuit_proof, WVal.bytes (encProof c.proof))]).flatMap encField := by
  cases hk : c.rootKeyId <;> simp [encContainer, encField, optField, repeated, hk, List.flatMap_map]

/-- **The wire decoder inverts the wire encoder** for every container whose fields fit their
    length prefixes (each byte string shorter than 2^32, versions / key ids / algorithm tags
    below 2^32): authority block, any number of blocks, third-party signatures, either proof. -/
theorem decContainer_enc (c : Container) (h : SmallContainer c) : decContainer (encContainer c) = some c := by
  obtain ⟨hrk, ha, hb, hp⟩ := h
  have hal := encSBlock_length c.authority ha
  have hpl := encProof_length c.proof hp
  rw [decContainer, encContainer_eq, decAll_fields _ (by
    simp only [List.forall_mem_append, List.forall_mem_cons]
    refine ⟨⟨⟨optField_ok fun k hk => .varint (hrk k hk), .bytes hal, List.forall_mem_nil _⟩,
      fun x hx => ?_⟩, .bytes hpl, List.forall_mem_nil _⟩
    obtain ⟨e, he, rfl⟩ := List.mem_map.mp hx
    obtain ⟨b, hb', rfl⟩ := List.mem_map.mp he
    exact .bytes (encSBlock_length b (hb b hb')))]
  have hm := fun k h => Nat.mod_eq_of_lt (hrk k h)
  obtain ⟨rk, a, bl, p⟩ := c
  -- each getter passes over the other fields; the repeated field is skipped by its number
  cases rk <;>
    simp [optField, getVarint_append, getBytes_append, getAllBytes_append, getAllBytes_repeated, getVarint_repeated, getBytes_repeated,
      getVarint, getBytes, getAllBytes, biscuit_rootKeyId, biscuit_authority, biscuit_proof, biscuit_blocks, decSBlock_enc a ha,
      mapM'_dec bl hb, decProof_enc p hp, hm]

end Biscuit.Wire
