/-
  C11 — authorization is deterministic.

  The hash-based stores of the engine (`FactSet`, `RuleSet`) are lists in the model, so
  the iteration order is an explicit parameter: two orders are two lists with the same
  members.  The full statement of the property — including *which error* is reported —
  is false of the code (see `order_dependent_witness`); what is proved is the statement for
  evaluations in which no binding makes an expression fail.
-/
import BiscuitModel.Lemmas.Congr
import BiscuitModel.Props.C05
namespace Biscuit.C11
open Biscuit Biscuit.C05 Biscuit.C04

/-- authorization with the initial contents of the fact and rule stores given explicitly
    (`authorize` is the instance with the loading order of the code) -/
def authorizeOn (syms : SymbolTable) (rules : List SRule) (facts : List OFact) (blocks : List Block)
    (az : AuthorizerData) (lim : Limits) : AuthzResult :=
  let out := run syms rules lim (factMerge [] facts)
  match out.result with
  | .error e => .runError e
  | .ok () => decide syms out.facts blocks az

theorem authorize_eq_authorizeOn (syms : SymbolTable) (blocks : List Block) (az : AuthorizerData) (lim : Limits) :
    authorize syms blocks az lim = authorizeOn syms (worldRules blocks az) (worldFacts blocks az) blocks az lim := rfl

/-- **Order independence (partial: error-free evaluations).** Insert the same facts and the same
    rules in any order, any number of times — i.e. let the hash stores iterate in any order:
    if both runs end without error or limit, and no binding of a check or policy makes an
    expression fail, the result of authorization (acceptance, policy index, the list of failed
    checks) is the same. -/
theorem outcome_order_independent_partial (syms : SymbolTable) (rules rules' : List SRule) (facts facts' : List OFact)
    (blocks : List Block) (az : AuthorizerData) (lim lim' : Limits)
    (hf : ∀ x, x ∈ facts ↔ x ∈ facts') (hr : ∀ r, r ∈ rules ↔ r ∈ rules')
    (hok : (run syms rules lim (factMerge [] facts)).result = .ok ())
    (hok' : (run syms rules' lim' (factMerge [] facts')).result = .ok ())
    (hne : AllNoErr syms (run syms rules lim (factMerge [] facts)).facts blocks az) :
    authorizeOn syms rules facts blocks az lim = authorizeOn syms rules' facts' blocks az lim' := by
  have hsame : SameFacts (run syms rules lim (factMerge [] facts)).facts (run syms rules' lim' (factMerge [] facts')).facts :=
    fun x => run_order_independent ⟨syms, facts, rules⟩ ⟨syms, facts', rules'⟩ lim lim' rfl hf hr hok hok' x
  simp only [authorizeOn, hok, hok']
  exact decide_same hsame syms blocks az hne

/-- the failed checks are listed in declaration order whatever the iteration order -/
theorem failed_checks_in_declaration_order (syms : SymbolTable) (F : List OFact) (km : KeyMap) (dflt : List Nat)
    (blk : Nat) (mk : Nat → FailedCheck) (cs : List Check) (i : Nat)
    (hn : ∀ c ∈ cs, CheckNoErr syms F km dflt blk c.queries) :
    failedChecks syms F km dflt blk mk i cs =
      .ok (((enumFrom i cs).filter fun ic => !checkSpec syms F km dflt blk ic.2).map fun ic => mk ic.1) :=
  failedChecks_spec syms F km dflt blk mk (checkSpec syms F km dflt blk) cs i
    (fun c hc => evalCheck_spec syms F km dflt blk c (hn c hc))

/-! ## the full statement is false: a witness -/

def wRule : Rule :=
  ⟨⟨1026, []⟩, [⟨1024, [.var 1]⟩],
   [[.value (.int 10), .value (.var 1), .binary .div, .value (.int 0), .binary .greaterThan]]⟩

def wFacts : List OFact := [([0], ⟨1024, [.int 1]⟩), ([0], ⟨1024, [.int 0]⟩)]

/-- `f(0), f(1)` with `check if f($x), 10 / $x > 0`: one iteration order finds the match first,
    the other the division by zero — same facts, different outcome. -/
theorem order_dependent_witness :
    findMatch ⟨[]⟩ wFacts [0] authorizerId wRule = .ok true ∧
    findMatch ⟨[]⟩ wFacts.reverse [0] authorizerId wRule = .error .divideByZero ∧
    (∀ x, x ∈ wFacts ↔ x ∈ wFacts.reverse) := by
  refine ⟨by decide +kernel, by decide +kernel, fun x => by simp⟩

/-- and the hypothesis of the partial theorem is what excludes it -/
theorem witness_has_error : ¬ NoErr ⟨[]⟩ wFacts [0] wRule := by
  intro h
  exact h ([0], [(1, .int 0)]) (by decide +kernel) .divideByZero (by decide +kernel)

end Biscuit.C11
