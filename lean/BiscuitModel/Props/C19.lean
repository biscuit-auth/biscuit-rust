/-
  C19 — the C API mirrors the Rust API and never aborts.

  What the model carries (the handle and buffer protocol):
    * `update_keeps_handle`, `adds_never_abort` : whatever sequence of additions — accepted or
      refused — is applied to a builder handle, the handle keeps a builder and no call aborts;
    * `null_handle_is_error` : a null handle is an error, not an abort;
    * `serialize_writes_announced`, `serialize_sealed_writes_announced` : a buffer of the
      announced size receives exactly the announced number of bytes, sealed or not;
    * `sealed_size_exceeds_unsealed` : with a 32-byte key and a 64-byte signature the sealed token
      is 32 bytes longer — why announcing the unsealed size for the sealed serialization aborted;
    * `public_key_33_bytes_aborts` : the witness of the known finding — a 33-byte secp256r1 key
      does not fit the documented 32-byte buffer.
  That every C function returns what the Rust operation returns is a differential statement
  about two pieces of code; it is decided by the stream `capi`.
-/
import BiscuitModel.Model.CApi
namespace Biscuit.CApi
open Biscuit Biscuit.Wire

theorem update_keeps_handle {β ε : Type} (h : Handle β) (op : β → Except ε β) (hs : h.slot.isSome) :
    (h.update op).1.slot.isSome ∧ (h.update op).2 ≠ .abort := by
  unfold Handle.update
  cases hb : h.slot with
  | none => rw [hb] at hs; exact absurd hs Bool.false_ne_true
  | some b =>
    simp only
    cases hop : op b <;> simp

/-- C19: no sequence of additions, accepted or refused, empties the handle or aborts -/
theorem adds_never_abort {β ε : Type} (ops : List (β → Except ε β)) (h : Handle β) (hs : h.slot.isSome) :
    (runAdds h ops).1.slot.isSome ∧ Outcome.abort ∉ (runAdds h ops).2 := by
  induction ops generalizing h with
  | nil => simp [runAdds, hs]
  | cons op ops ih =>
    have h1 := update_keeps_handle h op hs
    have h2 := ih (h.update op).1 h1.1
    simp only [runAdds]
    refine ⟨h2.1, ?_⟩
    simp only [List.mem_cons, not_or]
    exact ⟨fun e => h1.2 e.symm, h2.2⟩

theorem null_handle_is_error {β ε : Type} (op : β → Except ε β) : (callAdd (none : Option (Handle β)) op).2 = .error := rfl

/-- a refused addition changes nothing -/
theorem refused_add_keeps_builder {β ε : Type} (b : β) (op : β → Except ε β) (e : ε) (h : op b = .error e) :
    ((⟨some b⟩ : Handle β).update op).1.slot = some b := by
  simp [Handle.update, h]

example : (runAdds (⟨some 0⟩ : Handle Nat) [fun n => .ok (n + 1), fun _ => (.error "parse" : Except String Nat), fun n => .ok (n + 2)]).1.slot = some 3 := by
  rfl

theorem copyInto_length (data : Bytes) : copyInto data.length data = (.value, data.length) := if_pos rfl

theorem serialize_writes_announced (c : Container) :
    copyInto (serializedSize c) (unsealedBytes c) = (.value, serializedSize c) := copyInto_length _

theorem serialize_sealed_writes_announced (c : Container) (sig : Bytes) :
    copyInto (sealedSize c sig) (sealedBytes c sig) = (.value, sealedSize c sig) := copyInto_length _

/-- announcing any other size aborts: `copy_from_slice` panics on a length mismatch -/
theorem wrong_announced_size_aborts (n : Nat) (data : Bytes) (h : data.length ≠ n) : (copyInto n data).1 = .abort := by
  rw [copyInto, if_neg h]

theorem varint_length_small (n : Nat) (h : n < 128) : (varint n).length = 1 := by
  simp [varint, varintAux, h]

/-- a field whose key and length each fit one varint byte -/
theorem fBytes_length_small (f : Nat) (b : Bytes) (hf : f * 8 + 2 < 128) (hb : b.length < 128) :
    (fBytes f b).length = 2 + b.length := by
  simp only [fBytes, key, List.length_append, varint_length_small _ hf, varint_length_small _ hb]

/-- with a 32-byte next key and a 64-byte signature the sealed token is 32 bytes longer -/
theorem sealed_size_exceeds_unsealed (c : Container) (sk sig : Bytes) (hp : c.proof = .secret sk)
    (hsk : sk.length = 32) (hsig : sig.length = 64) : sealedSize c sig = serializedSize c + 32 := by
  -- the two serializations differ in the last field only: 2 + (2 + 64) bytes against 2 + (2 + 32)
  have hf (f : Nat) (b : Bytes) (hf : f * 8 + 2 < 128) (hb : b.length < 126) :
      (fBytes Gen.Field.biscuit_proof (fBytes f b)).length = 4 + b.length := by
    have := fBytes_length_small f b hf (Nat.lt_trans hb (by decide))
    rw [fBytes_length_small _ _ (by decide) (this ▸ Nat.add_lt_of_lt_sub' hb), this]
    exact (Nat.add_assoc 2 2 _).symm
  simp only [sealedSize, serializedSize, sealedBytes, unsealedBytes, encContainer, hp, encProof, List.length_append,
    hf Gen.Field.proof_finalSignature sig (by decide) (by rw [hsig]; decide),
    hf Gen.Field.proof_nextSecret sk (by decide) (by rw [hsk]; decide), hsk, hsig]

/-- the known finding: a compressed secp256r1 key has 33 bytes, the documented buffer 32 -/
theorem public_key_33_bytes_aborts (k : Bytes) (h : k.length = 33) : (copyInto keyBuffer k).1 = .abort :=
  wrong_announced_size_aborts _ k (by rw [h]; decide)

theorem public_key_32_bytes_fits (k : Bytes) (h : k.length = 32) : copyInto keyBuffer k = (.value, 32) := by
  rw [keyBuffer, ← h]
  exact copyInto_length k

end Biscuit.CApi
