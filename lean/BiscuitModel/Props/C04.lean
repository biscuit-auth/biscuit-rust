/-
  C04 — authorization decisions follow the scoped-Datalog semantics.
-/
import BiscuitModel.Lemmas.Authorizer
namespace Biscuit.C04
open Biscuit

/-! ## trust: which origins a rule, check or policy can see -/

theorem mem_scopeStep (cur : Nat) (km : KeyMap) (acc : List Nat) (s : Scope) (x : Nat) :
    x ∈ scopeStep cur km acc s ↔
      x ∈ acc ∨ (s = .authority ∧ x = 0) ∨ (s = .previous ∧ cur ≠ authorizerId ∧ x ≤ cur) ∨
        (∃ k, s = .publicKey k ∧ x ∈ KeyMap.get km k) := by
  cases s with
  | authority => simp [scopeStep, mem_origin_insert, or_comm]
  | previous =>
    by_cases hc : cur = authorizerId
    · simp [scopeStep, hc]
    · simp [scopeStep, hc, mem_origin_union, rangeTo, Nat.lt_add_one_iff]
  | publicKey k => simp [scopeStep, mem_origin_union]

theorem fold_scopes_mem (cur : Nat) (km : KeyMap) (x : Nat) (scopes : List Scope) (acc : List Nat) :
      x ∈ scopes.foldl (scopeStep cur km) acc ↔
        x ∈ acc ∨ (Scope.authority ∈ scopes ∧ x = 0) ∨
          (Scope.previous ∈ scopes ∧ cur ≠ authorizerId ∧ x ≤ cur) ∨
          (∃ k, Scope.publicKey k ∈ scopes ∧ x ∈ KeyMap.get km k) := by
  rw [mem_foldl_of_step (mem_scopeStep cur km)]
  -- `∃ s ∈ scopes, s = c ∧ P` is `c ∈ scopes ∧ P`, for each of the three kinds of scope
  simp only [and_or_left, exists_or]
  exact or_congr_right (or_congr exists_mem_eq (or_congr exists_mem_eq
    ⟨fun ⟨_, h, k, e, q⟩ => ⟨k, e ▸ h, q⟩, fun ⟨k, h, q⟩ => ⟨_, h, k, rfl, q⟩⟩))

/-- **The trust rule.** With no `trusting` annotation: the defaults, the element's own block and
    the authorizer.  With an annotation: own block and authorizer always; the authority block only
    by `trusting authority` (or as part of `previous`); `previous` = blocks `0..current` (nothing
    for the authorizer); a public key = exactly the blocks registered under that key. -/
theorem trustedFromScopes_spec (scopes : List Scope) (dflt : List Nat) (cur : Nat) (km : KeyMap) (x : Nat) :
    x ∈ trustedFromScopes scopes dflt cur km ↔
      if scopes = [] then x = authorizerId ∨ x = cur ∨ x ∈ dflt
      else x = authorizerId ∨ x = cur ∨ (Scope.authority ∈ scopes ∧ x = 0) ∨
        (Scope.previous ∈ scopes ∧ cur ≠ authorizerId ∧ x ≤ cur) ∨
        (∃ k, Scope.publicKey k ∈ scopes ∧ x ∈ KeyMap.get km k) := by
  unfold trustedFromScopes
  cases scopes with
  | nil => simp [mem_origin_insert]
  | cons s rest =>
    simp only [List.isEmpty_cons, Bool.false_eq_true, if_false, reduceCtorEq]
    rw [fold_scopes_mem]
    simp only [mem_origin_insert, List.mem_singleton, or_assoc]
    exact or_left_comm

theorem trusted_other (scopes : List Scope) (dflt : List Nat) (cur : Nat) (km : KeyMap) (n : Nat)
    (hn : n ≠ 0) (hnA : n ≠ authorizerId) (hcur : n ≠ cur) (h : n ∈ trustedFromScopes scopes dflt cur km) :
    (scopes = [] ∧ n ∈ dflt) ∨ (Scope.previous ∈ scopes ∧ cur ≠ authorizerId ∧ n ≤ cur) ∨
      ∃ k, Scope.publicKey k ∈ scopes ∧ n ∈ KeyMap.get km k := by
  rw [trustedFromScopes_spec] at h
  split at h
  · next hs => exact .inl ⟨hs, (h.resolve_left hnA).resolve_left hcur⟩
  · exact .inr (((h.resolve_left hnA).resolve_left hcur).resolve_left fun h0 => hn h0.2)

/-- default trust: the authority block and the authorizer -/
theorem defaultTrusted_spec (x : Nat) : x ∈ defaultTrusted ↔ x = 0 ∨ x = authorizerId := by
  simp [defaultTrusted, mem_origin_insert]

/-- a fact is visible to an element exactly when *every* block that contributed to it is trusted -/
theorem visible_spec (trusted : List Nat) (facts : List (List Nat × Fact)) (of : List Nat × Fact) :
    of ∈ visible trusted facts ↔ of ∈ facts ∧ ∀ b ∈ of.1, b ∈ trusted := by
  simp [visible, trusts, List.mem_filter, List.all_eq_true]

/-! ## the three kinds of check (for evaluations without expression errors) -/

def CheckNoErr (syms : SymbolTable) (facts : List (List Nat × Fact)) (km : KeyMap) (dflt : List Nat) (blk : Nat)
    (qs : List QRule) : Prop :=
  ∀ q ∈ qs, NoErr syms facts (trustedFromScopes q.scopes dflt blk km) q.rule

def qMatches (syms : SymbolTable) (facts : List (List Nat × Fact)) (km : KeyMap) (dflt : List Nat) (blk : Nat) (q : QRule) : Bool :=
  (applyRule syms (visible (trustedFromScopes q.scopes dflt blk km) facts) blk q.rule).any isHit

def qHoldsForAll (syms : SymbolTable) (facts : List (List Nat × Fact)) (km : KeyMap) (dflt : List Nat) (blk : Nat) (q : QRule) : Bool :=
  let bs := combine (visible (trustedFromScopes q.scopes dflt blk km) facts) q.rule.body (MV.new (bodyVars q.rule.body))
  !bs.isEmpty && bs.all fun ob => evalExprs q.rule.exprs ob.2 (TempSyms.new syms) == .ok true

theorem evalCheck_go_spec {syms : SymbolTable} {facts : List (List Nat × Fact)} {km : KeyMap} {dflt : List Nat} {blk : Nat}
    (c : Check) (res : QRule → Bool) : ∀ (qs : List QRule),
    (∀ q ∈ qs, evalQuery syms facts c.kind (trustedFromScopes q.scopes dflt blk km) blk q.rule = .ok (res q)) →
    evalCheck.go syms facts km dflt blk c qs = .ok (if c.kind == .reject then qs.all res else qs.any res) := by
  intro qs
  induction qs with
  | nil => intro _; rw [evalCheck.go]; cases c.kind <;> rfl
  | cons q rest ih =>
    intro h
    rw [evalCheck.go, h q List.mem_cons_self, ih fun x hx => h x (List.mem_cons_of_mem _ hx),
      List.all_cons, List.any_cons]
    cases res q <;> cases c.kind <;> rfl

theorem policyMatches_eq_go {syms : SymbolTable} {facts : List (List Nat × Fact)} {km : KeyMap} {dflt : List Nat}
    (c : Check) (hk : c.kind = .one) : ∀ (qs : List QRule),
    policyMatches syms facts km dflt qs = evalCheck.go syms facts km dflt authorizerId c qs := by
  intro qs
  induction qs with
  | nil => rw [policyMatches, evalCheck.go, hk]; rfl
  | cons q rest ih =>
    rw [policyMatches, evalCheck.go, hk, evalQuery, ih]
    split <;> rfl

/-- **`check if`** holds iff some alternative has a match among the facts it trusts. -/
theorem check_one_spec (syms : SymbolTable) (facts : List (List Nat × Fact)) (km : KeyMap) (dflt : List Nat) (blk : Nat)
    (c : Check) (hk : c.kind = .one) (h : CheckNoErr syms facts km dflt blk c.queries) :
    evalCheck syms facts km dflt blk c = .ok (c.queries.any (qMatches syms facts km dflt blk)) := by
  rw [evalCheck, evalCheck_go_spec c (qMatches syms facts km dflt blk) c.queries
    (fun q hq => by rw [hk]; exact findMatch_spec (h q hq)), hk]
  rfl

/-- **`check all`** holds iff some alternative has at least one match of its body and every
    match satisfies all its expressions. -/
theorem check_all_spec (syms : SymbolTable) (facts : List (List Nat × Fact)) (km : KeyMap) (dflt : List Nat) (blk : Nat)
    (c : Check) (hk : c.kind = .all) (h : CheckNoErr syms facts km dflt blk c.queries) :
    evalCheck syms facts km dflt blk c = .ok (c.queries.any (qHoldsForAll syms facts km dflt blk)) := by
  rw [evalCheck, evalCheck_go_spec c (qHoldsForAll syms facts km dflt blk) c.queries
    (fun q hq => by rw [hk]; exact checkMatchAll_spec (h q hq)), hk]
  rfl

/-- **`reject if`** passes only when *none* of its alternatives matches. -/
theorem check_reject_spec (syms : SymbolTable) (facts : List (List Nat × Fact)) (km : KeyMap) (dflt : List Nat) (blk : Nat)
    (c : Check) (hk : c.kind = .reject) (h : CheckNoErr syms facts km dflt blk c.queries) :
    evalCheck syms facts km dflt blk c = .ok (c.queries.all fun q => !qMatches syms facts km dflt blk q) := by
  rw [evalCheck, evalCheck_go_spec c (fun q => !qMatches syms facts km dflt blk q) c.queries
    (fun q hq => by rw [hk, evalQuery, findMatch_spec (h q hq)]; rfl), hk]
  rfl

theorem policyMatches_spec (syms : SymbolTable) (facts : List (List Nat × Fact)) (km : KeyMap) (dflt : List Nat) :
    ∀ (qs : List QRule), CheckNoErr syms facts km dflt authorizerId qs →
      policyMatches syms facts km dflt qs = .ok (qs.any (qMatches syms facts km dflt authorizerId)) :=
  fun qs h => policyMatches_eq_go ⟨.one, qs⟩ rfl qs ▸
    check_one_spec syms facts km dflt authorizerId ⟨.one, qs⟩ rfl h

/-! ## failed checks are listed in declaration order, with their index -/

theorem failedChecks_spec (syms : SymbolTable) (facts : List (List Nat × Fact)) (km : KeyMap) (dflt : List Nat) (blk : Nat)
    (mk : Nat → FailedCheck) (res : Check → Bool) :
    ∀ (cs : List Check) (i : Nat), (∀ c ∈ cs, evalCheck syms facts km dflt blk c = .ok (res c)) →
      failedChecks syms facts km dflt blk mk i cs =
        .ok (((enumFrom i cs).filter fun ic => !res ic.2).map fun ic => mk ic.1) := by
  intro cs
  induction cs with
  | nil => exact fun i _ => rfl
  | cons c rest ih =>
    intro i h
    rw [failedChecks, h c List.mem_cons_self, ih (i + 1) fun x hx => h x (List.mem_cons_of_mem _ hx), enumFrom,
      List.filter_cons]
    cases res c <;> rfl

/-! ## policies are tried in order -/

theorem firstPolicy_spec (syms : SymbolTable) (facts : List (List Nat × Fact)) (km : KeyMap) (dflt : List Nat)
    (m : Policy → Bool) :
    ∀ (ps : List Policy) (i : Nat), (∀ p ∈ ps, policyMatches syms facts km dflt p.queries = .ok (m p)) →
      firstPolicy syms facts km dflt i ps =
        .ok (((enumFrom i ps).find? fun ip => m ip.2).map fun ip => (ip.2.kind, ip.1)) := by
  intro ps
  induction ps with
  | nil => exact fun i _ => rfl
  | cons p rest ih =>
    intro i h
    rw [firstPolicy, h p List.mem_cons_self, enumFrom, List.find?_cons]
    cases m p
    · exact ih (i + 1) fun x hx => h x (List.mem_cons_of_mem _ hx)
    · rfl

/-! ## the final decision -/

/-- **Accepted** exactly when no check failed and the first matching policy is an `allow`;
    the index returned is that policy's. -/
theorem decide_ok_iff (syms : SymbolTable) (facts : List (List Nat × Fact)) (blocks : List Block) (az : AuthorizerData) (i : Nat) :
    decide syms facts blocks az = .ok i ↔
      ∃ f1 f2 f3,
        failedChecks syms facts (keyMap blocks) (authorizerTrusted az (keyMap blocks)) authorizerId
          FailedCheck.authorizer 0 az.checks = .ok f1 ∧
        blocksFailed syms facts (keyMap blocks) ((enumFrom 0 blocks).take 1) = .ok f2 ∧
        firstPolicy syms facts (keyMap blocks) (authorizerTrusted az (keyMap blocks)) 0 az.policies = .ok (some (.allow, i)) ∧
        blocksFailed syms facts (keyMap blocks) ((enumFrom 0 blocks).drop 1) = .ok f3 ∧
        f1 ++ f2 ++ f3 = [] := by
  unfold decide
  dsimp only
  constructor
  · intro h
    split at h
    · cases h
    · rename_i f1 h1
      split at h
      · cases h
      · rename_i f2 h2
        split at h
        · cases h
        · rename_i pol h3
          split at h
          · cases h
          · rename_i f3 h4
            split at h
            · cases h
            · split at h
              · next he =>
                cases h
                exact ⟨f1, f2, f3, h1, h2, h3, h4, List.isEmpty_iff.1 he⟩
              · cases h
            · cases h
  · rintro ⟨f1, f2, f3, h1, h2, h3, h4, h5⟩
    simp only [h1, h2, h3, h4, h5, List.isEmpty_nil, if_true]

theorem failedChecks_nil_iff (syms : SymbolTable) (facts : List (List Nat × Fact)) (km : KeyMap) (dflt : List Nat) (blk : Nat)
    (mk : Nat → FailedCheck) : ∀ (cs : List Check) (i : Nat),
      failedChecks syms facts km dflt blk mk i cs = .ok [] ↔ ∀ c ∈ cs, evalCheck syms facts km dflt blk c = .ok true := by
  intro cs
  induction cs with
  | nil => intro i; simp [failedChecks]
  | cons c rest ih =>
    intro i
    simp only [failedChecks, List.forall_mem_cons, ← ih (i + 1)]
    cases evalCheck syms facts km dflt blk c with
    | error e => simp
    | ok b => cases failedChecks syms facts km dflt blk mk (i + 1) rest <;> cases b <;> simp

theorem blocksFailed_nil_iff (syms : SymbolTable) (facts : List (List Nat × Fact)) (km : KeyMap) :
    ∀ (ibs : List (Nat × Block)), blocksFailed syms facts km ibs = .ok [] ↔
      ∀ ib ∈ ibs, ∀ c ∈ ib.2.checks,
        evalCheck syms facts km (trustedFromScopes ib.2.scopes defaultTrusted ib.1 km) ib.1 c = .ok true := by
  intro ibs
  induction ibs with
  | nil => simp [blocksFailed]
  | cons ib rest ih =>
    obtain ⟨i, b⟩ := ib
    simp only [blocksFailed, List.forall_mem_cons, ← ih, ← failedChecks_nil_iff syms facts km _ i (FailedCheck.block i) b.checks 0]
    cases failedChecks syms facts km (trustedFromScopes b.scopes defaultTrusted i km) i (FailedCheck.block i) 0 b.checks with
    | error e => simp
    | ok l => cases blocksFailed syms facts km rest <;> simp

/-- **Accepted** exactly when every check of the authorizer and of every block holds and the first
    matching policy is an `allow` (the order in which `decide` evaluates them only matters for
    which error or which refusal is reported). -/
theorem accepted_iff {syms : SymbolTable} {facts : List (List Nat × Fact)} {blocks : List Block} {az : AuthorizerData} {i : Nat} :
    decide syms facts blocks az = .ok i ↔
      (∀ c ∈ az.checks, evalCheck syms facts (keyMap blocks) (authorizerTrusted az (keyMap blocks)) authorizerId c = .ok true) ∧
      (∀ ib ∈ enumFrom 0 blocks, ∀ c ∈ ib.2.checks,
        evalCheck syms facts (keyMap blocks) (trustedFromScopes ib.2.scopes defaultTrusted ib.1 (keyMap blocks)) ib.1 c = .ok true) ∧
      firstPolicy syms facts (keyMap blocks) (authorizerTrusted az (keyMap blocks)) 0 az.policies = .ok (some (.allow, i)) := by
  rw [decide_ok_iff, ← failedChecks_nil_iff syms facts _ _ _ FailedCheck.authorizer az.checks 0,
    ← List.take_append_drop 1 (enumFrom 0 blocks), List.forall_mem_append, ← blocksFailed_nil_iff, ← blocksFailed_nil_iff,
    List.take_append_drop]
  constructor
  · rintro ⟨f1, f2, f3, h1, h2, hp, h3, hnil⟩
    simp only [List.append_eq_nil_iff] at hnil
    obtain ⟨⟨rfl, rfl⟩, rfl⟩ := hnil
    exact ⟨h1, ⟨h2, h3⟩, hp⟩
  · rintro ⟨h1, ⟨h2, h3⟩, hp⟩
    exact ⟨[], [], [], h1, h2, hp, h3, rfl⟩

/-- a failed check of the authorizer refuses the request, whatever the policies say (for the checks of
    the blocks: `accepted_iff`) -/
theorem failed_check_refuses (syms : SymbolTable) (facts : List (List Nat × Fact)) (blocks : List Block)
    (az : AuthorizerData) (i : Nat) (f1 : List FailedCheck)
    (h1 : failedChecks syms facts (keyMap blocks) (authorizerTrusted az (keyMap blocks)) authorizerId
      FailedCheck.authorizer 0 az.checks = .ok f1) (hne : f1 ≠ []) :
    decide syms facts blocks az ≠ .ok i := by
  intro h
  obtain ⟨g1, g2, g3, e1, _, _, _, e5⟩ := (decide_ok_iff syms facts blocks az i).mp h
  cases h1.symm.trans e1
  exact hne (List.append_eq_nil_iff.1 (List.append_eq_nil_iff.1 e5).1).1

/-! ## non-vacuity: the repaired defect C04-reject-alternatives (DESIGN.md §9.1) -/

def exAz : AuthorizerData :=
  { facts := [⟨1024, [.int 1]⟩], rules := [],
    checks := [⟨.reject, [⟨⟨⟨1026, []⟩, [⟨1025, [.int 1]⟩], []⟩, []⟩, ⟨⟨⟨1026, []⟩, [⟨1024, [.int 1]⟩], []⟩, []⟩]⟩],
    policies := [⟨.allow, [⟨⟨⟨1026, []⟩, [], [[.value (.bool true)]]⟩, []⟩]⟩], scopes := [] }

/-- `a(1); reject if b(1) or a(1); allow if true` is refused (the second alternative matches) -/
example : authorize ⟨[]⟩ [] exAz ⟨1000, 100, none⟩ = .unauthorized .allow 0 [.authorizer 0] := by decide +kernel

end Biscuit.C04
