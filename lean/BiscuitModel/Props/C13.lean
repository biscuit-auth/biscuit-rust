/-
  C13 — authorizer snapshots and saved policies restore the same authorizer.

  A snapshot expresses every block, the authorizer's own block, the policies and the
  generated facts in one symbol table and one public-key table, and stores those tables;
  restoring re-inserts the stored strings and keys one by one.  The theorems show that this
  rebuilds exactly the same tables (so every index means the same string / key as when the
  snapshot was taken) and that the key-to-blocks map of a block list registers all its
  blocks, including later ones.  Equality of behaviour is tied by the `snapshot` stream.
-/
import BiscuitModel.Lemmas.Intern
import BiscuitModel.Props.C07
namespace Biscuit.C13
open Biscuit

/-- an interned string resolves to itself -/
theorem intern_resolve (t : SymbolTable) (s : Str) :
    (t.insert s).1.getSymbol (t.insert s).2 = some s := by
  unfold SymbolTable.insert
  split
  · next i hi =>
    have hs := getElem?_of_indexOf hi
    -- a default symbol's index is below the offset: 28 < 1024
    have : ¬ Gen.symbolOffset ≤ i := Nat.not_le.2 (Nat.lt_trans (List.getElem?_eq_some_iff.1 hs).1 (by decide))
    rw [SymbolTable.getSymbol, if_neg this, hs]
  · split
    · next i hi =>
      rw [SymbolTable.getSymbol, if_pos (Nat.le_add_right _ _), Nat.add_sub_cancel_left, getElem?_of_indexOf hi]
    · rw [SymbolTable.getSymbol, if_pos (Nat.le_add_right _ _), Nat.add_sub_cancel_left, List.getElem?_concat_length]

/-- indices that resolved before an insertion resolve to the same string after it -/
theorem insert_stable (t : SymbolTable) (s : Str) (i : Nat) (x : Str) (h : t.getSymbol i = some x) :
    (t.insert s).1.getSymbol i = some x := by
  rw [SymbolTable.insert_fst]
  split
  · unfold SymbolTable.getSymbol at h ⊢
    split
    · next hi =>
      rw [if_pos hi] at h
      rw [List.getElem?_append_left (List.getElem?_eq_some_iff.1 h).1, h]
    · next hi => rwa [if_neg hi] at h
  · exact h

/-- `for symbol in world.symbols { symbols.insert(&symbol) }` -/
def restoreSymbols (stored : List Str) : SymbolTable := stored.foldl (fun (t : SymbolTable) s => (t.insert s).1) ⟨[]⟩

/-- **Restoring the symbol table of a snapshot rebuilds exactly the table the snapshot was
    written against** — for every table produced by interning (well-formed: no default symbol,
    no duplicate), so every symbol index stored in the snapshot means the same string. -/
theorem restore_symbols (t : ITable) (hw : WFt t) : restoreSymbols t.syms.symbols = t.syms :=
  foldl_snoc_fresh SymbolTable.mk _ []
    (fun acc s hs hn => by rw [SymbolTable.insert_fst, if_pos ⟨hw.noDefault s hs, hn⟩]) hw.symsNodup

/-- `PublicKeys::insert` of each stored key -/
def restoreKeys (stored : List Nat) : List Nat := stored.foldl (fun t k => (internKey ⟨⟨[]⟩, t⟩ k).1.keys) []

/-- **and the public-key table**: every key index stored in the snapshot means the same key -/
theorem restore_keys (t : ITable) (hw : WFt t) : restoreKeys t.keys = t.keys :=
  foldl_snoc_fresh id _ [] (fun acc k _ hn => by simp [internKey_fst, hn]) hw.keysNodup

/-- interning a list of blocks from the empty table gives a well-formed table (not shown for
    `internCase`, which builds the table an authorizer's snapshot is written against) -/
theorem snapshot_table_wf (pool : List Str) (blocks : List Block) : WFt (internList (internBlockBuild pool) ITable.empty blocks).1 :=
  (internList_good (internBlockBuild_good pool) blocks ITable.empty).2 wf_empty

/-- **`keyMap blocks` registers every block under its key**: a scope naming the key of a *later*
    block trusts it.  Nothing here is specific to a restored authorizer: that restoring builds this
    map before any scope is resolved is tied by the `snapshot` stream. -/
theorem key_map_restored (blocks : List Block) (k n : Nat) (h : n < blocks.length) (hn : n ≠ 0)
    (hk : blocks[n].extKey = some k) (scopes : List Scope) (hs : Scope.publicKey k ∈ scopes) (dflt : List Nat) (cur : Nat) :
    n ∈ trustedFromScopes scopes dflt cur (keyMap blocks) := by
  rw [C04.trustedFromScopes_spec, if_neg (List.ne_nil_of_mem hs)]
  exact .inr (.inr (.inr (.inr ⟨k, hs, (C07.keyMap_spec blocks k n).mpr ⟨h, hn, hk⟩⟩)))

end Biscuit.C13
