/-
  C06 — expression evaluation is total, overflow-checked and type-strict.
  Property theorems only; the model is BiscuitModel/Model/Expr.lean.
-/
import BiscuitModel.Model.Expr
namespace Biscuit.C06
open Biscuit

/-! ## an operator's own outcomes

A value, or an error the operator itself raises (`Overflow`, `DivideByZero`, `UnknownSymbol`, …): not the type
error, which type strictness is about, and not the model's `outOfFuel`, which totality is about. -/

def Own (x : EvalM) : Prop := x ≠ .error .invalidType ∧ x ≠ .error .outOfFuel

theorem Own.ok (v : Term × TempSyms) : Own (.ok v) := ⟨nofun, nofun⟩

theorem withStrs_own {s : TempSyms} {a b : Nat} {k : Str → Str → EvalM} (hk : ∀ x y, Own (k x y)) :
    Own (withStrs s a b k) := by
  unfold withStrs
  split
  · exact hk _ _
  · exact ⟨nofun, nofun⟩
  · exact ⟨nofun, nofun⟩

theorem checkedI64_map (r : Int) (e : ExprErr) (s : TempSyms) :
    (checkedI64 r e).map (·, s) =
      if i64Min ≤ r ∧ r ≤ i64Max then (.ok (.int r, s) : EvalM) else .error e := by
  simp only [checkedI64, inI64, Bool.and_eq_true, decide_eq_true_eq]
  split <;> rfl

theorem checkedI64_own (r : Int) {e : ExprErr} (he : e = .overflow ∨ e = .divideByZero) (s : TempSyms) :
    Own ((checkedI64 r e).map (·, s)) := by
  rw [checkedI64_map]
  split
  · exact Own.ok _
  · rcases he with rfl | rfl <;> exact ⟨nofun, nofun⟩

theorem checkedDiv_own (a b : Int) (s : TempSyms) : Own ((checkedDiv a b).map (·, s)) := by
  unfold checkedDiv
  split
  · exact ⟨nofun, nofun⟩
  · exact checkedI64_own _ (.inr rfl) s

/-! ## checked arithmetic: never a wrapped value -/

/-- `+` on integers: the mathematical sum when it fits in an i64, `Overflow` otherwise. -/
theorem add_checked (a b : Int) (s : TempSyms) :
    evalBinary .add (.int a) (.int b) s =
      if i64Min ≤ a + b ∧ a + b ≤ i64Max then .ok (.int (a + b), s) else .error .overflow :=
  checkedI64_map _ _ s

theorem sub_checked (a b : Int) (s : TempSyms) :
    evalBinary .sub (.int a) (.int b) s =
      if i64Min ≤ a - b ∧ a - b ≤ i64Max then .ok (.int (a - b), s) else .error .overflow :=
  checkedI64_map _ _ s

theorem mul_checked (a b : Int) (s : TempSyms) :
    evalBinary .mul (.int a) (.int b) s =
      if i64Min ≤ a * b ∧ a * b ≤ i64Max then .ok (.int (a * b), s) else .error .overflow :=
  checkedI64_map _ _ s

/-- `/`: division by zero is an error, and so is the one quotient that does not fit
    (`MIN / -1`); otherwise the quotient truncated towards zero. -/
theorem div_checked (a b : Int) (s : TempSyms) :
    evalBinary .div (.int a) (.int b) s =
      if b = 0 then .error .divideByZero
      else if i64Min ≤ Int.tdiv a b ∧ Int.tdiv a b ≤ i64Max then .ok (.int (Int.tdiv a b), s)
      else .error .divideByZero := by
  dsimp only [evalBinary, checkedDiv]
  split
  · rfl
  · exact checkedI64_map _ _ s

/-- Any integer result of an arithmetic operator on in-range operands is in range. -/
theorem arith_result_in_range (op : Binary) (hop : op = .add ∨ op = .sub ∨ op = .mul ∨ op = .div)
    (a b r : Int) (s s' : TempSyms) (h : evalBinary op (.int a) (.int b) s = .ok (.int r, s')) :
    i64Min ≤ r ∧ r ≤ i64Max := by
  -- whichever operator it is, a successful result went through the range test of `checkedI64_map`
  have key : ∀ x e, (if i64Min ≤ x ∧ x ≤ i64Max then (.ok (.int x, s) : EvalM) else .error e) =
      .ok (.int r, s') → i64Min ≤ r ∧ r ≤ i64Max := by
    intro x e hx
    split at hx
    · injection hx with hx; injection hx with hx; injection hx with hx; subst hx; assumption
    · cases hx
  rcases hop with rfl | rfl | rfl | rfl
  · exact key _ _ (add_checked a b s ▸ h)
  · exact key _ _ (sub_checked a b s ▸ h)
  · exact key _ _ (mul_checked a b s ▸ h)
  · rw [div_checked] at h
    split at h
    · cases h
    · exact key _ _ h

example : evalBinary .add (.int i64Max) (.int 1) (TempSyms.new ⟨[]⟩) = .error .overflow := by decide
example : evalBinary .mul (.int 3037000500) (.int 3037000500) (TempSyms.new ⟨[]⟩) = .error .overflow := by decide
example : evalBinary .div (.int i64Min) (.int (-1)) (TempSyms.new ⟨[]⟩) = .error .divideByZero := by decide
example : evalBinary .div (.int (-7)) (.int 2) (TempSyms.new ⟨[]⟩) = .ok (.int (-3), TempSyms.new ⟨[]⟩) := by decide

/-! ## type strictness -/

/-- Operand kinds on which each binary operator is defined (the specification table).
    `ffi` is outside the table (it is defined by the host). -/
def allowed : Binary → Term → Term → Bool
  | .lessThan, l, r | .greaterThan, l, r | .lessOrEqual, l, r | .greaterOrEqual, l, r =>
    (l.tag == 1 && r.tag == 1) || (l.tag == 3 && r.tag == 3)
  | .equal, l, r | .notEqual, l, r => l.tag == r.tag && l.tag != 0
  | .heterogeneousEqual, _, _ | .heterogeneousNotEqual, _, _ => true
  | .contains, l, r =>
    (l.tag == 2 && r.tag == 2) || (l.tag == 6 && (r.tag == 6 || r.tag == 1 || r.tag == 2 || r.tag == 3 || r.tag == 4 || r.tag == 5))
      || l.tag == 8 || l.tag == 9
  | .pfx, l, r | .sfx, l, r => (l.tag == 2 && r.tag == 2) || (l.tag == 8 && r.tag == 8)
  | .regex, l, r => l.tag == 2 && r.tag == 2
  | .add, l, r => (l.tag == 1 && r.tag == 1) || (l.tag == 2 && r.tag == 2)
  | .sub, l, r | .mul, l, r | .div, l, r | .bitwiseAnd, l, r | .bitwiseOr, l, r | .bitwiseXor, l, r =>
    l.tag == 1 && r.tag == 1
  | .and, l, r | .or, l, r => l.tag == 5 && r.tag == 5
  | .intersection, l, r | .union, l, r => l.tag == 6 && r.tag == 6
  | .get, l, r => (l.tag == 8 && r.tag == 1) || (l.tag == 9 && (r.tag == 1 || r.tag == 2))
  | .lazyAnd, _, _ | .lazyOr, _, _ | .all, _, _ | .any, _, _ => false
  | .ffi _, _, _ => true

theorem sameEqKind_eq (l r : Term) : sameEqKind l r = (l.tag == r.tag && l.tag != 0) := by
  cases l <;> cases r <;> rfl

/-- **Type strictness.** Outside the specification table every binary operator applied to two
    terms is a type error — never a value. -/
theorem type_strict (op : Binary) (l r : Term) (s : TempSyms) (h : allowed op l r = false) :
    evalBinary op l r s = .error .invalidType := by
  cases op <;> dsimp only [evalBinary, evalCompare, evalContains]
  case equal | notEqual => rw [sameEqKind_eq, show (l.tag == r.tag && l.tag != 0) = false from h]; rfl
  case heterogeneousEqual | heterogeneousNotEqual | ffi => cases h
  -- the other operators match on the operand kinds: an arm that computes is in the table, against
  -- `h`; what is left is the arm that reports the type error
  all_goals split <;> first | rfl | cases h

theorem tag_int {t : Term} (h : (t.tag == 1) = true) : ∃ i, t = .int i := by
  cases t with | int i => exact ⟨i, rfl⟩ | _ => cases h
theorem tag_str {t : Term} (h : (t.tag == 2) = true) : ∃ i, t = .str i := by
  cases t with | str i => exact ⟨i, rfl⟩ | _ => cases h
theorem tag_date {t : Term} (h : (t.tag == 3) = true) : ∃ i, t = .date i := by
  cases t with | date i => exact ⟨i, rfl⟩ | _ => cases h
theorem tag_bool {t : Term} (h : (t.tag == 5) = true) : ∃ i, t = .bool i := by
  cases t with | bool i => exact ⟨i, rfl⟩ | _ => cases h
theorem tag_set {t : Term} (h : (t.tag == 6) = true) : ∃ i, t = .set i := by
  cases t with | set i => exact ⟨i, rfl⟩ | _ => cases h
theorem tag_arr {t : Term} (h : (t.tag == 8) = true) : ∃ i, t = .arr i := by
  cases t with | arr i => exact ⟨i, rfl⟩ | _ => cases h
theorem tag_map {t : Term} (h : (t.tag == 9) = true) : ∃ i, t = .map i := by
  cases t with | map i => exact ⟨i, rfl⟩ | _ => cases h

theorem allowed_own (op : Binary) (l r : Term) (s : TempSyms) (h : allowed op l r = true) :
    Own (evalBinary op l r s) := by
  -- row by row: the tags `h` admits name the constructors of `l` and `r`, and on those the operator computes
  cases op <;> simp only [allowed, Bool.or_eq_true, Bool.and_eq_true] at h
  case lessThan | greaterThan | lessOrEqual | greaterOrEqual =>
    obtain ⟨⟨i, rfl⟩, j, rfl⟩ | ⟨⟨i, rfl⟩, j, rfl⟩ :=
      h.imp (And.imp tag_int tag_int) (And.imp tag_date tag_date) <;> exact Own.ok _
  case equal | notEqual =>
    simp only [evalBinary, sameEqKind_eq, h, Bool.and_self]; exact Own.ok _
  case heterogeneousEqual | heterogeneousNotEqual => exact Own.ok _
  case contains =>
    obtain ((⟨hl, hr⟩ | ⟨hl, hr⟩) | hl) | hl := h
    · obtain ⟨⟨a, rfl⟩, b, rfl⟩ := And.intro (tag_str hl) (tag_str hr)
      exact withStrs_own fun _ _ => Own.ok _
    · obtain ⟨a, rfl⟩ := tag_set hl
      cases r <;> simp [Term.tag] at hr <;> exact Own.ok _
    · obtain ⟨a, rfl⟩ := tag_arr hl; exact Own.ok _
    · obtain ⟨a, rfl⟩ := tag_map hl; exact Own.ok _
  case pfx | sfx =>
    obtain ⟨⟨a, rfl⟩, b, rfl⟩ | ⟨⟨a, rfl⟩, b, rfl⟩ :=
      h.imp (And.imp tag_str tag_str) (And.imp tag_arr tag_arr)
    · exact withStrs_own fun _ _ => Own.ok _
    · exact Own.ok _
  case regex =>
    obtain ⟨⟨a, rfl⟩, b, rfl⟩ := h.imp tag_str tag_str
    refine withStrs_own fun _ _ => ?_
    split
    · exact Own.ok _
    · exact ⟨nofun, nofun⟩
  case add =>
    obtain ⟨⟨a, rfl⟩, b, rfl⟩ | ⟨⟨a, rfl⟩, b, rfl⟩ :=
      h.imp (And.imp tag_int tag_int) (And.imp tag_str tag_str)
    · exact checkedI64_own _ (.inl rfl) _
    · exact withStrs_own fun _ _ => Own.ok _
  case sub | mul => obtain ⟨⟨i, rfl⟩, j, rfl⟩ := h.imp tag_int tag_int; exact checkedI64_own _ (.inl rfl) _
  case div => obtain ⟨⟨i, rfl⟩, j, rfl⟩ := h.imp tag_int tag_int; exact checkedDiv_own _ _ _
  case bitwiseAnd | bitwiseOr | bitwiseXor =>
    obtain ⟨⟨i, rfl⟩, j, rfl⟩ := h.imp tag_int tag_int; exact Own.ok _
  case and | or =>
    obtain ⟨⟨i, rfl⟩, j, rfl⟩ := h.imp tag_bool tag_bool; exact Own.ok _
  case intersection | union =>
    obtain ⟨⟨i, rfl⟩, j, rfl⟩ := h.imp tag_set tag_set; exact Own.ok _
  case get =>
    obtain ⟨⟨a, rfl⟩, i, rfl⟩ | ⟨⟨a, rfl⟩, ⟨i, rfl⟩ | ⟨i, rfl⟩⟩ :=
      h.imp (And.imp tag_arr tag_int) (And.imp tag_map (Or.imp tag_int tag_str)) <;> exact Own.ok _
  case lazyAnd | lazyOr | all | any => cases h
  case ffi => simp only [evalBinary]; split <;> exact ⟨nofun, nofun⟩

set_option linter.unusedVariables false in
/-- Inside the table the result is never a type error. (`hf` is not needed: an extern call fails
    with `UnknownSymbol` or `UndefinedExtern`.) -/
theorem allowed_not_type_error (op : Binary) (l r : Term) (s : TempSyms) (h : allowed op l r = true)
    (hf : ∀ n, op ≠ .ffi n) : evalBinary op l r s ≠ .error .invalidType :=
  (allowed_own op l r s h).1

/-! ## totality: evaluation never runs out of its recursion budget -/

theorem evalUnary_fuel (u : Unary) (v : Term) (s : TempSyms) :
    evalUnary u v s ≠ .error .outOfFuel := by
  unfold evalUnary
  split <;> (try split) <;> simp

theorem evalBinary_fuel (op : Binary) (l r : Term) (s : TempSyms) :
    evalBinary op l r s ≠ .error .outOfFuel := by
  cases h : allowed op l r with
  | false => rw [type_strict op l r s h]; exact nofun
  | true => exact (allowed_own op l r s h).2

theorem closureLoop_fuel (ev : List Op → Bindings → TempSyms → EvalM) (stopOn : Bool) (p : Nat)
    (body : List Op) (vals : Bindings) (hev : ∀ v s, ev body v s ≠ .error .outOfFuel) :
    ∀ (xs : List Term) (s : TempSyms), closureLoop ev stopOn p body vals xs s ≠ .error .outOfFuel := by
  intro xs
  induction xs with
  | nil => intro s; simp [closureLoop]
  | cons x xs ih =>
    intro s
    unfold closureLoop
    split
    · rename_i e h; intro h2; injection h2 with h2; subst h2; exact hev _ _ h
    · split
      · simp
      · exact ih _
    · simp

theorem evalWithClosure_fuel (ev : List Op → Bindings → TempSyms → EvalM) (op : Binary) (l : Term)
    (params : List Nat) (body : List Op) (vals : Bindings) (s : TempSyms)
    (hev : ∀ v s, ev body v s ≠ .error .outOfFuel) :
    evalWithClosure ev op l params body vals s ≠ .error .outOfFuel := by
  unfold evalWithClosure
  split <;> first
    | exact hev _ _
    | exact closureLoop_fuel ev _ _ body vals hev _ _
    | simp

/-- closure bodies that are still to be run: in the remaining ops and on the stack -/
def bodiesOK (ev : List Op → Bindings → TempSyms → EvalM) (body : List Op) : Prop :=
  ∀ v s, ev body v s ≠ .error .outOfFuel

def opsOK (ev : List Op → Bindings → TempSyms → EvalM) (ops : List Op) : Prop :=
  ∀ ps body, Op.closure ps body ∈ ops → bodiesOK ev body

def stackOK (ev : List Op → Bindings → TempSyms → EvalM) : List StackElem → Prop
  | [] => True
  | .term _ :: st => stackOK ev st
  | .closure _ body :: st => bodiesOK ev body ∧ stackOK ev st

theorem stepOps_value (ev : List Op → Bindings → TempSyms → EvalM) (vals : Bindings) (t : Term)
    (ht : ∀ v, t ≠ .var v) (rest : List Op) (st : List StackElem) (s : TempSyms) :
    stepOps ev vals (.value t :: rest) st s = stepOps ev vals rest (.term t :: st) s := by
  cases t <;> first | rfl | exact absurd rfl (ht _)

theorem stepOps_fuel (ev : List Op → Bindings → TempSyms → EvalM) (vals : Bindings) :
    ∀ (ops : List Op) (stack : List StackElem) (s : TempSyms),
      opsOK ev ops → stackOK ev stack → stepOps ev vals ops stack s ≠ .error .outOfFuel := by
  -- an error passed on from an operator is that operator's, which is never `outOfFuel`
  have pass : ∀ {x : EvalM} {e : ExprErr}, x = .error e → x ≠ .error .outOfFuel →
      (.error e : EvalM) ≠ .error .outOfFuel := fun h hx => h ▸ hx
  intro ops
  induction ops with
  | nil =>
    intro stack s _ _
    cases stack with
    | nil => nofun
    | cons x xs => cases x <;> cases xs <;> nofun
  | cons op rest ih =>
    intro stack s hops hst
    have hrest : opsOK ev rest := fun ps b hm => hops ps b (List.mem_cons_of_mem _ hm)
    cases op with
    | value t =>
      cases t with
      | var i =>
        dsimp only [stepOps]
        split
        · exact ih _ _ hrest hst
        · nofun
      | _ => exact ih _ _ hrest hst
    | unary u =>
      dsimp only [stepOps]
      split
      · split
        · exact ih _ _ hrest hst
        · next h => exact pass h (evalUnary_fuel _ _ _)
      · nofun
    | binary b =>
      dsimp only [stepOps]
      split
      · split
        · exact ih _ _ hrest hst
        · next h => exact pass h (evalBinary_fuel _ _ _ _)
      · split
        · nofun
        · split
          · exact ih _ _ hrest hst.2
          · next h => exact pass h (evalWithClosure_fuel ev _ _ _ _ _ _ hst.1)
      · nofun
    | closure ps body => exact ih _ _ hrest ⟨hops ps body List.mem_cons_self, hst⟩

theorem depth_mem {ops : List Op} {ps : List Nat} {body : List Op}
    (h : Op.closure ps body ∈ ops) : Op.depthList body + 1 ≤ Op.depthList ops := by
  induction ops with
  | nil => cases h
  | cons o os ih =>
    simp only [Op.depthList]
    cases h with
    | head => simp [Op.depth]; omega
    | tail _ h' => have := ih h'; omega

theorem evalExpr_fuel : ∀ (n : Nat) (ops : List Op) (vals : Bindings) (s : TempSyms),
    Op.depthList ops < n → evalExpr n ops vals s ≠ .error .outOfFuel := by
  intro n
  induction n with
  | zero => intro ops vals s h; omega
  | succ n ih =>
    intro ops vals s h
    simp only [evalExpr]
    apply stepOps_fuel
    · intro ps body hm v s'
      exact ih body v s' (by have := depth_mem hm; omega)
    · trivial

/-- **Totality.** For every operation sequence — well-formed or not, with closures nested to any
    depth — every binding set and symbol table, evaluation returns a value or one of the
    specified errors; the recursion budget `depth + 1` is never exhausted. -/
theorem eval_total (ops : List Op) (vals : Bindings) (s : TempSyms) :
    (∃ t s', eval ops vals s = .ok (t, s')) ∨
    (∃ e, eval ops vals s = .error e ∧ e ≠ .outOfFuel) := by
  have h := evalExpr_fuel (Op.depthList ops + 1) ops vals s (by omega)
  unfold eval
  cases hr : evalExpr (Op.depthList ops + 1) ops vals s with
  | ok p => exact .inl ⟨p.1, p.2, rfl⟩
  | error e => exact .inr ⟨e, rfl, fun he => h (by rw [hr, he])⟩


/-- `==` and `!=` return a boolean on every pair of terms. -/
theorem heterogeneous_eq_total (l r : Term) (s : TempSyms) :
    (∃ b, evalBinary .heterogeneousEqual l r s = .ok (.bool b, s)) ∧
    (∃ b, evalBinary .heterogeneousNotEqual l r s = .ok (.bool b, s)) :=
  ⟨⟨_, rfl⟩, ⟨_, rfl⟩⟩

/-- and they are each other's negation -/
theorem heterogeneous_ne_is_not_eq (l r : Term) (s : TempSyms) (b : Bool)
    (h : evalBinary .heterogeneousEqual l r s = .ok (.bool b, s)) :
    evalBinary .heterogeneousNotEqual l r s = .ok (.bool (!b), s) := by
  cases h; rfl

/-- Unary operators outside their domain are type errors. -/
def allowedUnary : Unary → Term → Bool
  | .negate, t => t.tag == 5
  | .parens, _ => true
  | .length, t => t.tag == 2 || t.tag == 4 || t.tag == 6 || t.tag == 8 || t.tag == 9
  | .typeOf, t => t.tag != 0
  | .ffi _, _ => true

theorem unary_type_strict (u : Unary) (t : Term) (s : TempSyms) (h : allowedUnary u t = false) :
    evalUnary u t s = .error .invalidType := by
  unfold evalUnary
  split <;> first | rfl | cases h | (cases t <;> first | rfl | cases h)

/-! ## laziness -/

/-- `true || <closure>`: the closure body is not evaluated — the machine continues with `true`
    whatever the body is (even one that would fail). -/
theorem lazy_or_short (ev : List Op → Bindings → TempSyms → EvalM) (vals : Bindings)
    (body rest : List Op) (st : List StackElem) (s : TempSyms) :
    stepOps ev vals (.binary .lazyOr :: rest) (.closure [] body :: .term (.bool true) :: st) s =
    stepOps ev vals rest (.term (.bool true) :: st) s := rfl

theorem lazy_and_short (ev : List Op → Bindings → TempSyms → EvalM) (vals : Bindings)
    (body rest : List Op) (st : List StackElem) (s : TempSyms) :
    stepOps ev vals (.binary .lazyAnd :: rest) (.closure [] body :: .term (.bool false) :: st) s =
    stepOps ev vals rest (.term (.bool false) :: st) s := rfl

/-- when the left side does not decide, the result is the body's result -/
theorem lazy_or_evaluates_right (ev : List Op → Bindings → TempSyms → EvalM) (vals : Bindings)
    (body : List Op) (s : TempSyms) :
    evalWithClosure ev .lazyOr (.bool false) [] body vals s = ev body vals s := rfl

theorem lazy_and_evaluates_right (ev : List Op → Bindings → TempSyms → EvalM) (vals : Bindings)
    (body : List Op) (s : TempSyms) :
    evalWithClosure ev .lazyAnd (.bool true) [] body vals s = ev body vals s := rfl

/-- The strict forms take two evaluated booleans: both sides have been run before the operator. -/
theorem strict_and_or_evaluate_both (l r : Bool) (s : TempSyms) :
    evalBinary .and (.bool l) (.bool r) s = .ok (.bool (l && r), s) ∧
    evalBinary .or (.bool l) (.bool r) s = .ok (.bool (l || r), s) := ⟨rfl, rfl⟩

/-! ## closures -/

/-- A closure whose parameter is already bound is refused before anything is evaluated. -/
theorem closure_rejects_shadowing (ev : List Op → Bindings → TempSyms → EvalM) (vals : Bindings)
    (b : Binary) (params : List Nat) (body rest : List Op) (l : Term) (st : List StackElem) (s : TempSyms)
    (h : ∃ p ∈ params, Bindings.hasKey vals p = true) :
    stepOps ev vals (.binary b :: rest) (.closure params body :: .term l :: st) s =
      .error .shadowedVariable := by
  obtain ⟨p, hp, hk⟩ := h
  have : (params.any fun p => Bindings.hasKey vals p) = true := List.any_eq_true.mpr ⟨p, hp, hk⟩
  simp [stepOps, this]

theorem get_erase_ne (b : Bindings) (p q : Nat) (h : q ≠ p) :
    Bindings.get (Bindings.erase b p) q = Bindings.get b q := by
  induction b with
  | nil => rfl
  | cons kv rest ih =>
    obtain ⟨k, v⟩ := kv
    by_cases hk : k = p
    · subst hk
      have : Bindings.erase ((k, v) :: rest) k = Bindings.erase rest k := by
        simp [Bindings.erase, List.filter]
      rw [this, ih]
      have hne : ¬ k = q := fun e => h e.symm
      simp [Bindings.get, hne]
    · have : Bindings.erase ((k, v) :: rest) p = (k, v) :: Bindings.erase rest p := by
        simp [Bindings.erase, List.filter, hk]
      rw [this]
      simp only [Bindings.get]
      split
      · rfl
      · exact ih

/-- The body of `all`/`any` sees its parameter bound to the element, and every other
    variable exactly as outside the closure. -/
theorem closure_binds_param (vals : Bindings) (p : Nat) (x : Term) :
    Bindings.get (Bindings.insert vals p x) p = some x ∧
    ∀ q, q ≠ p → Bindings.get (Bindings.insert vals p x) q = Bindings.get vals q := by
  constructor
  · simp [Bindings.insert, Bindings.get]
  · intro q hq
    have hne : ¬ p = q := fun e => hq e.symm
    simp only [Bindings.insert, Bindings.get, hne, if_false]
    exact get_erase_ne vals p q hq

/-- `all` is the conjunction, `any` the disjunction, of the body over the elements in
    iteration order, for bodies that evaluate without error. -/
theorem closureLoop_spec (ev : List Op → Bindings → TempSyms → EvalM) (stopOn : Bool) (p : Nat)
    (body : List Op) (vals : Bindings) (f : Term → Bool) (s : TempSyms) :
    ∀ (xs : List Term), (∀ x ∈ xs, ev body (Bindings.insert vals p x) s = .ok (.bool (f x), s)) →
      closureLoop ev stopOn p body vals xs s =
        .ok (.bool (if stopOn then xs.any f else xs.all f), s) := by
  intro xs
  induction xs with
  | nil => intro _; cases stopOn <;> simp [closureLoop]
  | cons x xs ih =>
    intro h
    have hx := h x (List.mem_cons_self)
    have hxs := ih (fun y hy => h y (List.mem_cons_of_mem _ hy))
    unfold closureLoop
    rw [hx]
    simp only
    cases stopOn <;> cases hf : f x <;> simp_all

theorem all_spec (ev : List Op → Bindings → TempSyms → EvalM) (p : Nat) (body : List Op)
    (vals : Bindings) (f : Term → Bool) (s : TempSyms) (xs : List Term)
    (h : ∀ x ∈ xs, ev body (Bindings.insert vals p x) s = .ok (.bool (f x), s)) :
    evalWithClosure ev .all (.set xs) [p] body vals s = .ok (.bool (xs.all f), s) :=
  closureLoop_spec ev false p body vals f s xs h

theorem any_spec (ev : List Op → Bindings → TempSyms → EvalM) (p : Nat) (body : List Op)
    (vals : Bindings) (f : Term → Bool) (s : TempSyms) (xs : List Term)
    (h : ∀ x ∈ xs, ev body (Bindings.insert vals p x) s = .ok (.bool (f x), s)) :
    evalWithClosure ev .any (.arr xs) [p] body vals s = .ok (.bool (xs.any f), s) :=
  closureLoop_spec ev true p body vals f s xs h

/-- a non-boolean body is a type error, an error in the body is the error of the whole -/
theorem closure_body_error (ev : List Op → Bindings → TempSyms → EvalM) (stopOn : Bool) (p : Nat)
    (body : List Op) (vals : Bindings) (x : Term) (xs : List Term) (s : TempSyms) (e : ExprErr)
    (h : ev body (Bindings.insert vals p x) s = .error e) :
    closureLoop ev stopOn p body vals (x :: xs) s = .error e := by
  unfold closureLoop; rw [h]

/-- `all`/`any` take exactly one parameter, `&&`/`||` none: any other arity is a type error. -/
theorem closure_arity (ev : List Op → Bindings → TempSyms → EvalM) (l : Term) (body : List Op)
    (vals : Bindings) (s : TempSyms) (p q : Nat) (ps : List Nat) :
    evalWithClosure ev .all l (p :: q :: ps) body vals s = .error .invalidType ∧
    evalWithClosure ev .any l [] body vals s = .error .invalidType ∧
    evalWithClosure ev .lazyOr l (p :: ps) body vals s = .error .invalidType ∧
    evalWithClosure ev .lazyAnd l (p :: ps) body vals s = .error .invalidType := by
  refine ⟨?_, ?_, ?_, ?_⟩ <;> cases l <;> first | rfl | (rename_i b; cases b <;> rfl)

/-! ## stack discipline -/

theorem empty_is_invalid (vals : Bindings) (s : TempSyms) : eval [] vals s = .error .invalidStack := rfl

theorem leftover_is_invalid (a b : Term) (vals : Bindings) (s : TempSyms)
    (ha : ∀ v, a ≠ .var v) (hb : ∀ v, b ≠ .var v) :
    eval [.value a, .value b] vals s = .error .invalidStack := by
  unfold eval evalExpr
  rw [stepOps_value _ _ a ha, stepOps_value _ _ b hb]
  rfl

theorem unknown_variable (v : Nat) (s : TempSyms) :
    eval [.value (.var v)] [] s = .error (.unknownVariable v) := rfl

/-- non-vacuity: a nested-closure program that evaluates to `true` -/
example :
    eval [.value (.set [.int 1, .int 2]),
          .closure [1] [.value (.arr [.int 1, .int 2, .int 3]),
                        .closure [2] [.value (.var 1), .value (.var 2), .binary .heterogeneousEqual],
                        .binary .any],
          .binary .all] [] (TempSyms.new ⟨[]⟩) = .ok (.bool true, TempSyms.new ⟨[]⟩) := by decide

end Biscuit.C06
