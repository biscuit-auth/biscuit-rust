/-
  C16 — blocks declare the language version they need; under-declared blocks are refused.
  The detector tables and the compatibility ladder are regenerated from datalog/mod.rs on
  every run (`Gen/Detectors.lean`); the theorems below are re-checked against them.
-/
import BiscuitModel.Model.Versions
import BiscuitModel.Props.C02
namespace Biscuit.C16
open Biscuit

/-! ## the detector tables are the specification's tables -/

theorem bin33_table : ∀ k : BinK, Gen.v33Binaries.contains k = (specBin k == 6) := by intro k; cases k <;> decide
theorem bin31_table : ∀ k : BinK, Gen.v31Binaries.contains k = (specBin k == 4) := by intro k; cases k <;> decide
theorem un33_table : ∀ k : UnK, Gen.v33Unaries.contains k = (specUn k == 6) := by intro k; cases k <;> decide
theorem closure_table : Gen.v33Closure = true := by decide
theorem check_kind_table : Gen.checkAllDetected = true ∧ Gen.rejectDetected = true := by decide

mutual
theorem term33_detected : ∀ t : Term, codeTerm33 t = specTerm33 t
  | .var _ | .int _ | .str _ | .date _ | .bytes _ | .bool _ | .null | .arr _ | .map _ => rfl
  | .set xs => terms33_detected xs
theorem terms33_detected : ∀ ts : List Term, codeTerms33 ts = specTerms33 ts
  | [] => rfl
  | x :: xs => by rw [codeTerms33, specTerms33, term33_detected x, terms33_detected xs]
end

theorem op33_detected (o : Op) : codeOp33 o = specOp33 o := by
  cases o with
  | value t => exact term33_detected t
  | unary u => simp only [codeOp33, specOp33, un33_table]
  | binary b => simp only [codeOp33, specOp33, bin33_table]
  | closure ps ops => simp only [codeOp33, specOp33, closure_table]

theorem op31_detected (o : Op) : codeOp31 o = specOp31 o := by
  cases o with
  | binary b => simp only [codeOp31, specOp31, bin31_table]
  | _ => rfl

/-- **A block produced by the builders declares exactly the lowest version that includes every
    feature it uses** — for every block: any operators, any nesting of terms, any checks and scopes
    (the head of a check query is not looked at, by `get_schema_version` and `specVersion` alike). -/
theorem declared_version_spec (b : Block) : declaredVersion b = specVersion b := by
  rw [declaredVersion, specVersion, funext term33_detected, funext op33_detected, funext op31_detected, check_kind_table.1,
    check_kind_table.2]

theorem third_party_at_least_32 (b : Block) :
    Gen.datalog32 ≤ declaredVersionThirdParty b ∧ specVersion b ≤ declaredVersionThirdParty b := by
  rw [declaredVersionThirdParty, declared_version_spec]
  exact ⟨Nat.le_max_left _ _, Nat.le_max_right _ _⟩

/-- the declared version is one of 3.0, 3.1, 3.3 -/
theorem spec_version_values (b : Block) : specVersion b = 3 ∨ specVersion b = 4 ∨ specVersion b = 6 := by
  simp only [specVersion, Flags.version, Gen.datalog33, Gen.datalog31, Gen.minSchemaVersion]
  split
  · exact .inr (.inr rfl)
  · split
    · exact .inr (.inl rfl)
    · exact .inl rfl

/-! ## the load gate refuses every under-declared block -/

theorem loadGate_iff (v : Nat) (tp : Bool) (b : Block) : loadGate v tp b = true ↔
    (Gen.minSchemaVersion ≤ v ∧ v ≤ Gen.maxSchemaVersion) ∧
    (v < Gen.datalog31 → (∀ q ∈ b.rules, q.scopes = []) ∧ ∀ c ∈ b.checks, ∀ q ∈ c.queries, q.scopes = []) ∧
    (v < Gen.maxSchemaVersion → ∀ c ∈ b.checks, (v < Gen.datalog31 → c.kind = .one) ∧ (v < Gen.datalog33 → c.kind ≠ .reject)) ∧
    (v < Gen.datalog32 → tp = false) ∧
    compatible (blockFlags codeTerm33 codeOp33 codeOp31 Gen.checkAllDetected Gen.rejectDetected b) v = true := by
  simp only [loadGate, Bool.and_eq_true, decide_eq_true_eq, Bool.not_eq_true', Bool.and_eq_false_imp, Bool.or_eq_false_iff,
    List.any_eq_false, Bool.not_eq_true, Bool.not_eq_false, List.isEmpty_iff, and_assoc, Bool.or_eq_true, bne_iff_ne, beq_iff_eq,
    not_or, not_and, Bool.and_eq_true, ne_eq, Decidable.not_not]

/-- 3.3 content needs a declared 3.3, 3.1 content a declared 3.1: the two rungs of `Flags.version` -/
theorem compatible_sound (f : Flags) (declared : Nat) (h : compatible f declared = true) : f.version ≤ declared ∨ declared < 3 := by
  simp only [compatible, Gen.gate33Unconditional, Gen.gate31Scopes, Gen.gate31Ops, Gen.gate31CheckAll, Bool.true_or, Bool.true_and,
    Bool.and_eq_true, Bool.not_eq_true', Bool.and_eq_false_imp, Gen.datalog33, Gen.datalog31] at h
  simp only [Flags.version, Gen.datalog33, Gen.datalog31, Gen.minSchemaVersion]
  split
  · next h33 => exact .inl (Nat.le_of_not_lt fun hd => by simpa [h33] using h.1 (decide_eq_true hd))
  · split
    · next h31 => exact .inl (Nat.le_of_not_lt fun hd => by simpa [h31] using h.2 (decide_eq_true hd))
    · exact (Nat.lt_or_ge declared 3).symm

/-- **A block whose declared version is outside the supported range, or lower than a feature it
    contains, is rejected**: whatever passes the gate declares a supported version, at least the
    version the specification requires for its contents, and at least 3.2 if it is third-party. -/
theorem gate_sound (declared : Nat) (thirdParty : Bool) (b : Block) (h : loadGate declared thirdParty b = true) :
    3 ≤ declared ∧ declared ≤ 6 ∧ specVersion b ≤ declared ∧ (thirdParty = true → 5 ≤ declared) := by
  obtain ⟨⟨hlo, hhi⟩, _, _, htp, hc⟩ := (loadGate_iff ..).mp h
  refine ⟨hlo, hhi, ?_, fun ht => Nat.le_of_not_lt fun hlt => Bool.false_ne_true ((htp hlt).symm.trans ht)⟩
  rw [← declared_version_spec]
  exact (compatible_sound _ _ hc).resolve_right (Nat.not_lt.2 hlo)

theorem compatible_own_version (f : Flags) : compatible f f.version = true := by
  obtain ⟨s, a, c, v⟩ := f
  revert s a c v
  decide +kernel

/-- and a block declaring what the builders compute for it passes its own compatibility check -/
theorem builder_blocks_pass_own_gate (b : Block) : compatible
    (blockFlags codeTerm33 codeOp33 codeOp31 Gen.checkAllDetected Gen.rejectDetected b) (declaredVersion b) = true :=
  compatible_own_version _

/-! ## signature scheme: chained whenever needed, never back (see also C02) -/

theorem chained_when_needed (a b : Nat) (dv : Option Nat) (prev : List Nat) :
    sigVersion a b true dv prev = 1 ∧
    (∀ v, Gen.datalog33 ≤ v → sigVersion a b false (some v) prev = 1) ∧
    (needs33 dv = false → (a ≠ ed25519 ∨ b ≠ ed25519) → sigVersion a b false dv prev = 1) :=
  ⟨C02.sigVersion_third_party a b dv prev, fun v hv => C02.sigVersion_datalog33 a b v prev hv,
   fun h1 h2 => C02.sigVersion_non_ed25519 a b dv prev h1 h2⟩

theorem never_back (a b : Nat) (hasExt : Bool) (dv : Option Nat) (prev : List Nat) (x : Nat) (hx : x ∈ prev) (h1 : x ≤ 1) :
    x ≤ sigVersion a b hasExt dv prev := C02.sigVersion_never_back a b hasExt dv prev x hx h1

/-! ## non-vacuity -/

example : specVersion ⟨[⟨1024, [.arr [.int 1]]⟩], [], [], [], none⟩ = 6 := by decide
example : specVersion ⟨[⟨1024, [.set [.int 1]]⟩], [], [⟨.all, []⟩], [], none⟩ = 4 := by decide
example : loadGate 3 false ⟨[⟨1024, [.null]⟩], [], [], [], none⟩ = false := by decide

end Biscuit.C16
