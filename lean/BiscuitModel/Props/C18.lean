/-
  C18 — compile-time Datalog macros equal runtime parsing.

  Both paths start from the same parsed item (the macros run the parser of `biscuit-parser` at
  compile time and emit code that rebuilds exactly that item; the runtime path runs the same
  parser at run time). They differ in how the parameters are bound:
    * run time (`code_with_params`, or `set` in a loop): EVERY supplied (name, value) is offered
      to EVERY item with the strict setter, an "unknown parameter" answer being ignored;
    * macros: each item is given, with the lenient setter `set_macro_param`, only the
      parameters it declares — in the iteration order of a hash set.
  Proved on the model of C20: the two setters differ in their answer, never in the state
  (`set_state_eq_setLenient_state`), so the two ways of binding leave the item in the same state
  (`runtime_bind_eq_macro_bind`); and the hash-map / hash-set iteration orders of the two paths
  cannot make them differ (`bind_order_irrelevant`).
  The rest of the property — that the code emitted by `quote!` rebuilds the parsed item, and the
  conversions of Rust values to terms — is covered by the stream `macros` (a generated crate).
-/
import BiscuitModel.Props.C20
namespace Biscuit.Params
open Biscuit.Printer

theorem set_state_eq_setLenient_state (it : Item) (n : String) (v : STerm) :
    (it.set n v).1 = (it.setLenient n v).1 := by
  unfold Item.set Item.setLenient
  split <;> rfl

theorem setScope_state_eq_lenient_state (it : Item) (n k : String) :
    (it.setScope n k).1 = (it.setScopeLenient n k).1 := by
  unfold Item.setScope Item.setScopeLenient
  split <;> rfl

theorem set_fst (it : Item) (n : String) (v : STerm) :
    (it.set n v).1 = if (declaredRule it.rule).contains n then { it with env := (n, v) :: it.env } else it := by
  unfold Item.set; split <;> rfl

/-- run time: every binding is offered with the strict setter, the answer is dropped -/
def bindRuntime (σ : Env) (it : Item) : Item := σ.foldl (fun it b => (it.set b.1 b.2).1) it

/-- macros: only the parameters the item declares, with the lenient setter -/
def bindMacro (σ : Env) (it : Item) : Item :=
  (σ.filter fun b => (declaredRule it.rule).contains b.1).foldl (fun it b => (it.setLenient b.1 b.2).1) it

theorem bindRuntime_eq (σ : Env) (it : Item) :
    bindRuntime σ it = { it with env := (σ.filter fun b => (declaredRule it.rule).contains b.1).reverse ++ it.env } := by
  unfold bindRuntime
  induction σ generalizing it with
  | nil => rfl
  | cons b bs ih =>
    rw [List.foldl_cons, ih, set_fst, List.filter_cons]
    split <;> simp

/-- C18: the two ways of binding leave the item in the same state -/
theorem runtime_bind_eq_macro_bind (σ : Env) (it : Item) : bindMacro σ it = bindRuntime σ it := by
  have : bindMacro σ it = bindRuntime (σ.filter fun b => (declaredRule it.rule).contains b.1) it := by
    simp only [bindMacro, bindRuntime, set_state_eq_setLenient_state]
  rw [this, bindRuntime_eq, bindRuntime_eq, List.filter_filter]
  simp only [Bool.and_self]

/-! ## the result depends only on the value of each name -/

theorem substKey_congr (σ σ' : Env) (h : ∀ n, lookup σ n = lookup σ' n) (k : SKey) : substKey σ k = substKey σ' k := by
  cases k with
  | param n => rw [substKey, substKey, h]
  | _ => rfl

mutual
theorem substTerm_congr (σ σ' : Env) (h : ∀ n, lookup σ n = lookup σ' n) : (t : STerm) → substTerm σ t = substTerm σ' t
  | .param n => congrArg (·.getD (.param n)) (h n)
  | .var _ | .int _ | .str _ | .date _ | .bytes _ | .bool _ | .null => rfl
  | .set xs => congrArg STerm.set (substTerms_congr σ σ' h xs)
  | .arr xs => congrArg STerm.arr (substTerms_congr σ σ' h xs)
  | .map kvs => congrArg STerm.map (substKVs_congr σ σ' h kvs)
theorem substTerms_congr (σ σ' : Env) (h : ∀ n, lookup σ n = lookup σ' n) : (ts : List STerm) → substTerms σ ts = substTerms σ' ts
  | [] => rfl
  | t :: ts => by rw [substTerms, substTerms, substTerm_congr σ σ' h t, substTerms_congr σ σ' h ts]
theorem substKVs_congr (σ σ' : Env) (h : ∀ n, lookup σ n = lookup σ' n) :
    (kvs : List (SKey × STerm)) → substKVs σ kvs = substKVs σ' kvs
  | [] => rfl
  | (k, t) :: kvs => by
    rw [substKVs, substKVs, substKey_congr σ σ' h k, substTerm_congr σ σ' h t, substKVs_congr σ σ' h kvs]
end

mutual
theorem substOp_congr (σ σ' : Env) (h : ∀ n, lookup σ n = lookup σ' n) : (op : POp) → substOp σ op = substOp σ' op
  | .val t => congrArg POp.val (substTerm_congr σ σ' h t)
  | .clo ps body => congrArg (POp.clo ps) (substOps_congr σ σ' h body)
  | .un _ | .bin _ => rfl
theorem substOps_congr (σ σ' : Env) (h : ∀ n, lookup σ n = lookup σ' n) : (ops : List POp) → substOps σ ops = substOps σ' ops
  | [] => rfl
  | op :: k => by rw [substOps, substOps, substOp_congr σ σ' h op, substOps_congr σ σ' h k]
end

theorem substRule_congr (σ σ' : Env) (κ : KeyEnv) (h : ∀ n, lookup σ n = lookup σ' n) (r : SRule) :
    substRule σ κ r = substRule σ' κ r := by
  have hp : substPred σ = substPred σ' := funext fun p => by rw [substPred, substPred, substTerms_congr σ σ' h]
  rw [substRule, substRule, hp, funext (substOps_congr σ σ' h)]

/-! ## order of binding -/

theorem lookup_append (σ τ : Env) (n : String) : lookup (σ ++ τ) n = (lookup σ n).or (lookup τ n) := by
  induction σ with
  | nil => rfl
  | cons b bs ih => simp only [List.cons_append, lookup]; split <;> simp [ih]

theorem lookup_filter (p : String → Bool) (σ : Env) (n : String) :
    lookup (σ.filter fun b => p b.1) n = if p n then lookup σ n else none := by
  induction σ with
  | nil => simp [lookup]
  | cons b bs ih =>
    by_cases hb : b.1 = n
    · cases hp : p n <;> simp [lookup, hb, hp, ih]
    · cases hp : p b.1 <;> simp [lookup, hb, hp, ih]

/-- the value a name ends up with after offering the bindings in order: the last one offered -/
theorem lookup_bindRuntime (σ : Env) (it : Item) (n : String) :
    lookup (bindRuntime σ it).env n =
      if (declaredRule it.rule).contains n then
        (match lookup σ.reverse n with | some v => some v | none => lookup it.env n)
      else lookup it.env n := by
  rw [bindRuntime_eq]
  simp only [lookup_append, ← List.filter_reverse, lookup_filter (declaredRule it.rule).contains]
  cases (declaredRule it.rule).contains n <;> cases lookup σ.reverse n <;> rfl

/-- with every name bound at most once, `lookup` does not depend on the order of the list -/
theorem lookup_perm (σ σ' : Env) (hp : σ.Perm σ') (hnd : (σ.map Prod.fst).Nodup) (n : String) :
    lookup σ n = lookup σ' n := by
  induction hp with
  | nil => rfl
  | cons x _ ih => rw [lookup, lookup, ih (List.nodup_cons.1 hnd).2]
  | swap x y l =>
    have hxy : x.1 = n → y.1 ≠ n := fun hx hy =>
      (List.nodup_cons.1 hnd).1 (List.mem_cons.2 (.inl (hy.trans hx.symm)))
    rw [lookup, lookup, lookup, lookup]
    by_cases hx : x.1 = n
    · simp only [if_pos hx, if_neg (hxy hx)]
    · simp only [if_neg hx]
  | trans h1 _ ih1 ih2 =>
    rw [ih1 hnd]
    exact ih2 ((h1.map Prod.fst).nodup_iff.mp hnd)

/-- C18: the iteration order of the parameter map (run time) or set (macros) is irrelevant
    when every name is bound once: any two orders give every name the same value, hence the
    same substituted item -/
theorem bind_order_irrelevant (σ σ' : Env) (it : Item) (hp : σ.Perm σ') (hnd : (σ.map Prod.fst).Nodup) :
    (bindRuntime σ it).apply = (bindRuntime σ' it).apply := by
  have hrev (n) : lookup σ.reverse n = lookup σ'.reverse n :=
    lookup_perm _ _ ((List.reverse_perm σ).trans (hp.trans (List.reverse_perm σ').symm))
      (by rw [List.map_reverse]; exact ((List.reverse_perm _).nodup_iff).mpr hnd) n
  have henv (n) : lookup (bindRuntime σ it).env n = lookup (bindRuntime σ' it).env n := by
    rw [lookup_bindRuntime, lookup_bindRuntime, hrev]
  -- rule and scope keys are those of `it` on both sides
  simp only [bindRuntime_eq] at henv ⊢
  exact substRule_congr _ _ _ henv _

/-! non-vacuity: a rule with two parameters, bound in both orders -/
example :
    let r : SRule := { head := ⟨"h", [.param "a"]⟩, body := [⟨"f", [.arr [.param "b"], .param "a"]⟩], exprs := [], scopes := [] }
    let it : Item := { rule := r }
    printRule (bindRuntime [("a", .int 1), ("b", .str "x"), ("zz", .null)] it).apply = "h(1) <- f([\"x\"], 1)"
      ∧ (bindMacro [("b", .str "x"), ("zz", .null), ("a", .int 1)] it).missing = [] := by
  decide +kernel

end Biscuit.Params
