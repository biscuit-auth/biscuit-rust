/-
  C07 — third-party blocks are bound to one signer and one position in one token.
-/
import BiscuitModel.Props.C01
import BiscuitModel.Props.C04
import BiscuitModel.Lemmas.KeyMapCongr
namespace Biscuit.C07
open Biscuit Biscuit.C02 Biscuit.C01

/-! ## the external signature: one signer, one position -/

/-- **A third-party block is accepted into a token only with a valid signature by the stated
    external key over its payload and over the signature of the block it is appended after.** -/
theorem append3p_checks (S : Scheme) (c c' : Container) (expected : PubKey) (data : Bytes) (resp : ExtSig)
    (a : Nat) (sk : Bytes) (h : appendThirdParty S c expected data resp a sk = some c') :
    resp.key = expected ∧
    S.verify expected (Spec.externalV1 Gen.thirdPartySignatureVersion data c.lastBlock.sig) resp.sig = true := by
  -- the payload `appendThirdParty` tests is the specification's by `rfl`
  obtain ⟨hk, hv⟩ := (Option.ite_none_right_eq_some.1 h).1
  exact ⟨hk, hk ▸ hv⟩

/-- for block bytes of equal length the external payload determines them and the previous
    signature (`C01.externalV1_injective`: for previous signatures of equal length) -/
theorem externalV1_injective (v v' : Nat) (d d' p p' : Bytes) (hv : v < 4294967296) (hv' : v' < 4294967296)
    (hd : d.length = d'.length) (h : Spec.externalV1 v d p = Spec.externalV1 v' d' p') : v = v' ∧ d = d' ∧ p = p' := by
  have h := fields_inj (p := [Spec.tagExternalVersion, Gen.le32 v, Spec.tagPayload, d, Spec.tagPrevSig])
    (p' := [Spec.tagExternalVersion, Gen.le32 v', Spec.tagPayload, d', Spec.tagPrevSig]) (s := []) (s' := [])
    (by simp only [List.map_cons, hd, le32_length]) rfl h
  simp only [List.cons.injEq, true_and, and_true] at h
  exact ⟨le32_injective hv hv' h.1.1, h.1.2, h.2⟩

/-- if the holder of the external key signed these block bytes for no position but the one after
    signature `sig₁` (whatever else the key has signed), a token accepts them only when it ends
    with that signature -/
theorem third_party_position (S : Scheme) (prot : PubKey → Prop) (honest : PubKey → Bytes → Bytes → Prop)
    (hU : Unforgeable S prot honest) (c c' : Container) (ext : PubKey) (hp : prot ext) (data sig₁ : Bytes) (resp : ExtSig)
    (honly : ∀ p s, honest ext (Spec.externalV1 Gen.thirdPartySignatureVersion data p) s → p = sig₁)
    (a : Nat) (sk : Bytes) (h : appendThirdParty S c ext data resp a sk = some c') :
    c.lastBlock.sig = sig₁ :=
  honly _ _ (hU ext _ _ hp (append3p_checks S c c' ext data resp a sk h).2)

/-- **A block produced for one token or position cannot be attached elsewhere**: if the holder of
    the external key signed this block only for the position after signature `sig₁`, a token
    accepts it (by `append_third_party`) only when it currently ends with that very signature.
    (`honly` says more than that: the key has signed no other message at all.) -/
theorem third_party_position_bound (S : Scheme) (prot : PubKey → Prop) (honest : PubKey → Bytes → Bytes → Prop)
    (hU : Unforgeable S prot honest) (c c' : Container) (ext : PubKey) (hp : prot ext) (data sig₁ : Bytes) (resp : ExtSig)
    (honly : ∀ m s, honest ext m s → m = Spec.externalV1 Gen.thirdPartySignatureVersion data sig₁)
    (a : Nat) (sk : Bytes) (h : appendThirdParty S c ext data resp a sk = some c') :
    c.lastBlock.sig = sig₁ :=
  third_party_position S prot honest hU c c' ext hp data sig₁ resp
    (fun p s hs => (externalV1_injective _ _ _ _ _ _ (by decide) (by decide) rfl (honly _ _ hs)).2.2) a sk h

/-- **A token in which a third-party block was moved, re-attributed or altered fails
    verification**: wherever a block with an external signature sits in an accepted token, that
    signature verifies, under the key stated in the token, over the block's own bytes and the
    signature of the block that actually precedes it. -/
theorem third_party_checked_in_place (S : Scheme) (root : PubKey) (c : Container) (hv : verifyToken S root c = true)
    (i : Nat) (h : i < c.blocks.length) (e : ExtSig) (he : c.blocks[i].ext = some e) :
    S.verify e.key (Spec.externalV1 Gen.thirdPartySignatureVersion c.blocks[i].data
      (if i = 0 then c.authority.sig else (c.blocks[i - 1]'(by omega)).sig)) e.sig = true := by
  obtain ⟨hwf, _, l, hch, _⟩ := (verify_iff_chain S root c).mp hv
  have hver : c.blocks[i].version = some Gen.thirdPartySignatureVersion := by
    simp only [wellFormed, Bool.and_eq_true, List.all_eq_true] at hwf
    have := hwf.2 c.blocks[i] (List.getElem_mem h)
    simpa [he] using this
  have := (accepted_blocks_are_honest S (fun _ => True) (fun pk m s => S.verify pk m s = true)
    (fun pk m s _ hs => hs) c.blocks _ _ _ l hch i h).2 e he trivial
  simpa only [externalPayload, gen_externalV1_eq_spec, hver, Option.getD_some] using this

/-! ## trust: only scopes naming its key -/

theorem mem_push {m : KeyMap} {k k' b b' : Nat} :
    b' ∈ KeyMap.get (KeyMap.push m k b) k' ↔ b' ∈ KeyMap.get m k' ∨ (k' = k ∧ b' = b) := by
  rw [KeyMap.get_push]
  split
  · rename_i h; subst h; simp
  · rename_i h; simp [h]

theorem mem_keyMapFrom_cons (blk : Block) (rest : List Block) (i : Nat) (m : KeyMap) (k b : Nat) :
    ∃ m', keyMapFrom (blk :: rest) i m = keyMapFrom rest (i + 1) m' ∧
      (b ∈ KeyMap.get m' k ↔ b ∈ KeyMap.get m k ∨ (b = i ∧ b ≠ 0 ∧ blk.extKey = some k)) := by
  rw [keyMapFrom]
  cases blk.extKey with
  | none => exact ⟨m, rfl, (or_iff_left fun h => nomatch h.2.2).symm⟩
  | some k0 =>
    refine ⟨_, rfl, ?_⟩
    split
    · next hi => exact (or_iff_left fun h => h.2.1 (h.1.trans hi)).symm
    · next hi =>
      rw [mem_push]
      exact or_congr_right ⟨fun h => ⟨h.2, h.2 ▸ hi, congrArg some h.1.symm⟩,
        fun h => ⟨(Option.some.inj h.2.2).symm, h.1⟩⟩

theorem mem_keyMapFrom : ∀ (blocks : List Block) (i : Nat) (m : KeyMap) (k b : Nat),
    b ∈ KeyMap.get (keyMapFrom blocks i m) k ↔
      b ∈ KeyMap.get m k ∨ ∃ j, b = i + j ∧ b ≠ 0 ∧ (blocks[j]?.bind (·.extKey)) = some k := by
  intro blocks
  induction blocks with
  | nil => exact fun i m k b => (or_iff_left fun ⟨_, h⟩ => nomatch h.2.2).symm
  | cons blk rest ih =>
    intro i m k b
    obtain ⟨m', e, hm'⟩ := mem_keyMapFrom_cons blk rest i m k b
    rw [e, ih, hm', or_assoc]
    -- position `j + 1` of `blk :: rest` is position `j` of `rest`, counted from `i + 1`
    refine or_congr_right (Iff.trans ?_ Nat.or_exists_add_one)
    refine or_congr Iff.rfl (exists_congr fun j => ?_)
    rw [List.getElem?_cons_succ, Nat.add_assoc, Nat.add_comm 1 j]

/-- the blocks registered under a public key are exactly the non-authority blocks carrying an
    external signature by that key -/
theorem keyMap_spec (blocks : List Block) (k b : Nat) :
    b ∈ KeyMap.get (keyMap blocks) k ↔ ∃ h : b < blocks.length, b ≠ 0 ∧ blocks[b].extKey = some k := by
  rw [keyMap, mem_keyMapFrom]
  constructor
  · rintro (h | ⟨j, rfl, h2, h3⟩)
    · cases h
    · rw [Nat.zero_add] at h2 ⊢
      obtain ⟨blk, hb, hk⟩ := Option.bind_eq_some_iff.1 h3
      obtain ⟨hj, rfl⟩ := List.getElem?_eq_some_iff.1 hb
      exact ⟨hj, h2, hk⟩
  · rintro ⟨h, h1, h2⟩
    exact .inr ⟨b, (Nat.zero_add b).symm, h1, by rw [List.getElem?_eq_getElem h]; exact h2⟩

/-- **The facts of a third-party block are trusted only by scopes naming its key** (or by the
    block itself, or by `previous` of a later block): if block `n` is in the trusted origins of an
    element of another block `cur`, then the element's scopes contain `previous` with `n ≤ cur`,
    or name a public key that signed block `n`, or `n` is in the defaults it started from. -/
theorem third_party_trust_only_by_key (blocks : List Block) (scopes : List Scope) (dflt : List Nat) (cur n : Nat)
    (hn : n ≠ 0) (hnA : n ≠ authorizerId) (hcur : n ≠ cur)
    (h : n ∈ trustedFromScopes scopes dflt cur (keyMap blocks)) :
    (scopes = [] ∧ n ∈ dflt) ∨ (Scope.previous ∈ scopes ∧ n ≤ cur) ∨
      ∃ k, Scope.publicKey k ∈ scopes ∧ ∃ hb : n < blocks.length, blocks[n].extKey = some k := by
  rcases C04.trusted_other scopes dflt cur (keyMap blocks) n hn hnA hcur h with h | h | ⟨k, hk, hb⟩
  · exact .inl h
  · exact .inr (.inl ⟨h.1, h.2.2⟩)
  · obtain ⟨hlt, _, hext⟩ := (keyMap_spec blocks k n).mp hb
    exact .inr (.inr ⟨k, hk, hlt, hext⟩)

end Biscuit.C07
