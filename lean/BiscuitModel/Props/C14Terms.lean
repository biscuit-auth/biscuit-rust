/-
  C14 — the term and fact parser inverts the printer.

  `fact_round_trip`: for every fact the grammar derives (`wfPred`: valid names, 64-bit
  integers, non-empty byte strings, homogeneous sets without sets / arrays / variables in
  them, arrays, maps, parameters, nested to any depth) — except the one printed form that
  reads back as something else, a one-element set of `true` / `false` / `null` / `hex:…`
  (known finding C14-singleton-set-parameter, excluded by `wfT`) — the model of
  `biscuit_parser::parser::fact_inner`, run on the printed fact followed by ANY text, returns
  exactly that fact and leaves exactly that text.

  The parser model (Model/TermParser) is the one the stream `termparse` compares with the real
  `fact_inner` on printed, re-spaced, mutated and random texts (result, remaining input and
  nom error class); the printer here is, by `printPred_eq_predC`, the printer model the
  stream `print` compares with `Display`.

  Assumed of the `time` crate (hypothesis `DateShape`, checked on every date table the
  harness produces): RFC 3339 parsing accepts only tokens that start with a digit and have
  `-` as fifth character.  Assumed per date in the term (`dateOK`, a decidable check that is
  part of `wfT`): `time` reads the printed date back.
-/
import BiscuitModel.Lemmas.TermParser
namespace Biscuit.TermParser
open Biscuit.Printer

/-! ## the character-level printer is the printer model -/

theorem joinWith_cons2 (sep x y : String) (r : List String) :
    joinWith sep (x :: y :: r) = x ++ sep ++ joinWith sep (y :: r) := rfl

theorem sep_toList : ", ".toList = [',', ' '] ∧ ": ".toList = [':', ' '] := by decide +kernel

theorem printKey_eq_keyC (k : SKey) : (printKey k).toList = keyC k := by
  cases k with
  | int i => exact String.toList_ofList
  | str s => exact String.toList_ofList
  | param n => simp only [printKey, keyC, String.toList_append, String.reduceToList, List.cons_append, List.nil_append]

theorem printTerms_of (t : STerm) (ts : List STerm) (h : ∀ u ∈ ts, (printTerm u).toList = termC u) :
    (joinWith ", " (printTerm t :: printTerms ts)).toList = (printTerm t).toList ++ tailC ts := by
  induction ts generalizing t with
  | nil => exact (List.append_nil _).symm
  | cons u r ih =>
    rw [printTerms, joinWith_cons2, String.toList_append, String.toList_append,
      ih u fun v hv => h v (List.mem_cons_of_mem _ hv), h u List.mem_cons_self, sep_toList.1, List.append_assoc]
    rfl

theorem printKV_toList (k : SKey) (t : STerm) :
    (printKey k ++ ": " ++ printTerm t).toList = keyC k ++ (':' :: ' ' :: (printTerm t).toList) := by
  rw [String.toList_append, String.toList_append, printKey_eq_keyC, sep_toList.2, List.append_assoc]; rfl

theorem printKVs_of (k : SKey) (t : STerm) (kvs : List (SKey × STerm)) (h : ∀ kv ∈ kvs, (printTerm kv.2).toList = termC kv.2) :
    (joinWith ", " ((printKey k ++ ": " ++ printTerm t) :: printKVs kvs)).toList =
      keyC k ++ (':' :: ' ' :: ((printTerm t).toList ++ kvTailC kvs)) := by
  induction kvs generalizing k t with
  | nil => exact (printKV_toList k t).trans (by rw [kvTailC, List.append_nil])
  | cons kv r ih =>
    rw [printKVs, joinWith_cons2, String.toList_append, String.toList_append, printKV_toList,
      ih kv.1 kv.2 fun v hv => h v (List.mem_cons_of_mem _ hv), h kv List.mem_cons_self, sep_toList.1, List.append_assoc,
      List.append_assoc]
    rfl

theorem printTerms_eq_of (ts : List STerm) (h : ∀ u ∈ ts, (printTerm u).toList = termC u) :
    (joinWith ", " (printTerms ts)).toList = termsC ts := by
  cases ts with
  | nil => decide
  | cons t ts => rw [printTerms, printTerms_of t ts fun u hu => h u (List.mem_cons_of_mem _ hu), h t List.mem_cons_self]; rfl

theorem printKVs_eq_of (kvs : List (SKey × STerm)) (h : ∀ kv ∈ kvs, (printTerm kv.2).toList = termC kv.2) :
    (joinWith ", " (printKVs kvs)).toList = kvsC kvs := by
  cases kvs with
  | nil => decide
  | cons kv kvs =>
    rw [printKVs, printKVs_of kv.1 kv.2 kvs fun u hu => h u (List.mem_cons_of_mem _ hu), h kv List.mem_cons_self]; rfl

theorem printTerm_eq_termC (t : STerm) : (printTerm t).toList = termC t := by
  induction t using STerm.ind with
  | var n => simp only [printTerm, termC, String.toList_append, String.reduceToList, List.cons_append, List.nil_append]
  | int i => exact String.toList_ofList
  | str s => exact String.toList_ofList
  | date d => rfl
  | bytes b => simp only [printTerm, termC, printBytes, String.toList_append, String.reduceToList, String.toList_ofList]
  | bool b => cases b <;> decide
  | null => decide
  | param n => exact printKey_eq_keyC (.param n)
  | set xs ih =>
    cases xs with
    | nil => decide
    | cons x xs =>
      simp only [printTerm, termC, List.isEmpty_cons, Bool.false_eq_true, ↓reduceIte, String.toList_append,
        printTerms_eq_of (x :: xs) ih, String.reduceToList, List.cons_append, List.nil_append]
  | arr xs ih =>
    simp only [printTerm, termC, String.toList_append, printTerms_eq_of xs ih, String.reduceToList, List.cons_append,
      List.nil_append]
  | map kvs ih =>
    simp only [printTerm, termC, String.toList_append, printKVs_eq_of kvs ih, String.reduceToList, List.cons_append,
      List.nil_append]

theorem printTerms_eq_termsC (ts : List STerm) : (joinWith ", " (printTerms ts)).toList = termsC ts :=
  printTerms_eq_of ts fun u _ => printTerm_eq_termC u

theorem printKVs_eq_kvsC : (kvs : List (SKey × STerm)) → (joinWith ", " (printKVs kvs)).toList = kvsC kvs :=
  fun kvs => printKVs_eq_of kvs fun kv _ => printTerm_eq_termC kv.2

/-- the text of a fact, as `printPred` (the model compared with `Display` on the stream `print`)
    writes it -/
theorem printPred_eq_predC (p : SPred) : (printPred p).toList = predC p := by
  simp [printPred, predC, printTerms_eq_termsC]

/-! ## the parser reads the printed text back -/

def ReadsBack (dateP : List Char → Option Nat) (t : STerm) : Prop :=
  ∀ (ctx : Ctx) (fuel : Nat) (rest : List Char),
    wfT dateP ctx t = true → EndsFor t rest → needT t ≤ fuel → pTerm dateP ctx fuel (termC t ++ rest) = .ok t rest

theorem scalar_rt {dateP} (hd : DateShape dateP) (t : STerm) (hs : scalar t = true) (ctx : Ctx) (fuel : Nat) (rest : List Char)
    (hwf : wfT dateP ctx t = true) (hc : EndsFor t rest) (hf : 1 ≤ fuel) :
    pTerm dateP ctx fuel (termC t ++ rest) = .ok t rest := by
  obtain ⟨n, rfl⟩ := fuel_pos hf
  simp only [pTerm, space0_termC ctx t rest hwf, pAtom_rt hd ctx t rest hs hwf hc]

theorem tail_of {dateP} (ts : List STerm) (h : ∀ t ∈ ts, ReadsBack dateP t) (ctx : Ctx) (ce : Bool) (fuel : Nat) (rest : List Char)
    (hwf : wfL dateP ctx ts = true) (hc : Close rest) (hf : needL ts ≤ fuel) :
    pTermsTail dateP ctx ce fuel (tailC ts ++ rest) = .ok ts rest := by
  induction ts generalizing fuel with
  | nil =>
    obtain ⟨n, rfl⟩ := fuel_pos hf
    exact pTermsTail_nil ctx ce n rest hc
  | cons t ts ih =>
    obtain ⟨n, rfl, h1, h2⟩ := fuel_cons hf
    have hwf := wfL_cons hwf
    have ht := h t List.mem_cons_self ctx n (tailC ts ++ rest) hwf.1 ((cont_tail ts rest hc).ends.endsFor t) h1
    have hts := ih (fun u hu => h u (List.mem_cons_of_mem _ hu)) n hwf.2 h2
    simp only [tailC, List.cons_append, List.append_assoc, pTermsTail, space0_comma _,
      pTerm_blank, ht, hts]

/-- `pTerms0` and `pTerms1` differ only when the first element is not there -/
theorem terms_of {dateP} (t : STerm) (ts : List STerm) (h : ∀ u ∈ t :: ts, ReadsBack dateP u) (ctx : Ctx) (ce : Bool) (fuel : Nat)
    (rest : List Char) (hwf : wfL dateP ctx (t :: ts) = true) (hc : Close rest) (hf : needL (t :: ts) ≤ fuel) :
    pTerms0 dateP ctx ce fuel (termsC (t :: ts) ++ rest) = .ok (t :: ts) rest ∧
    pTerms1 dateP ctx ce fuel (termsC (t :: ts) ++ rest) = .ok (t :: ts) rest := by
  obtain ⟨n, rfl, h1, h2⟩ := fuel_cons hf
  have hwf := wfL_cons hwf
  have ht := h t List.mem_cons_self ctx n (tailC ts ++ rest) hwf.1 ((cont_tail ts rest hc).ends.endsFor t) h1
  have hts := tail_of ts (fun u hu => h u (List.mem_cons_of_mem _ hu)) ctx ce n rest hwf.2 hc h2
  simp only [termsC, List.append_assoc, pTerms0, pTerms1, ht, hts, and_self]

theorem terms0_of {dateP} (hd : DateShape dateP) (ts : List STerm) (h : ∀ t ∈ ts, ReadsBack dateP t) (ctx : Ctx) (fuel : Nat)
    (rest : List Char) (hwf : wfL dateP ctx ts = true) (hc : Close rest) (hf : needL ts ≤ fuel) :
    pTerms0 dateP ctx false fuel (termsC ts ++ rest) = .ok ts rest := by
  cases ts with
  | cons t ts => exact (terms_of t ts h ctx false fuel rest hwf hc hf).1
  | nil =>
    obtain ⟨n, rfl, -⟩ := fuel_sub 3 (show 3 ≤ 4 by decide) hf
    obtain ⟨c, r, rfl, hsp, -, hts⟩ := hc.cont.head
    simp only [termsC, List.nil_append, pTerms0, pTerm_err_head hd ctx n r hsp hts, Bool.false_eq_true, ↓reduceIte]

theorem kvs_of {dateP} (kvs : List (SKey × STerm)) (h : ∀ kv ∈ kvs, ReadsBack dateP kv.2) (fuel : Nat) (rest : List Char)
    (hwf : wfKV dateP kvs = true) (hf : needKV kvs ≤ fuel) :
    pKVs0 dateP fuel (kvsC kvs ++ '}' :: rest) = .ok kvs ('}' :: rest) ∧
    pKVsTail dateP fuel (kvTailC kvs ++ '}' :: rest) = .ok kvs ('}' :: rest) := by
  induction kvs generalizing fuel with
  | nil =>
    obtain ⟨n, rfl, -⟩ := fuel_sub 2 (show 2 ≤ 4 by decide) hf
    have hnk : NotKey ('}' :: rest) := .inl (pMapKey_none_head _ (by decide) (by decide))
    have hne := ne_cons_of_head (close_nocomma ⟨'}', rest, rfl, .inr (.inl rfl)⟩)
    simp only [kvsC, kvTailC, List.nil_append, pKVs0, pKVsTail, pKV_err_of_notKey n _ hnk, and_self]
  | cons kv kvs ih =>
    obtain ⟨k, v⟩ := kv
    obtain ⟨n, rfl, h1, h2⟩ := fuel_cons hf
    obtain ⟨j, rfl, hj⟩ := fuel_sub 1 (Nat.le_refl 1) h1
    obtain ⟨hk, hv, hwf⟩ := wfKV_cons hwf
    have hkv := pKV_ok j k v _ hk (h (k, v) List.mem_cons_self .fact j (kvTailC kvs ++ '}' :: rest) hv
      ((cont_kvTail kvs rest).ends.endsFor v) hj)
    have hts := (ih (fun u hu => h u (List.mem_cons_of_mem _ hu)) (j + 1) hwf h2).2
    constructor
    · simp only [kvsC, List.append_assoc, List.cons_append, pKVs0, hkv, hts]
    · rw [pKVsTail]
      simp only [kvTailC, List.append_assoc, List.cons_append, space0_comma _,
        pKV_blank, hkv, hts]

theorem term_rt {dateP} (hd : DateShape dateP) : (t : STerm) → ∀ (ctx : Ctx) (fuel : Nat) (rest : List Char),
    wfT dateP ctx t = true → EndsFor t rest → needT t ≤ fuel → pTerm dateP ctx fuel (termC t ++ rest) = .ok t rest := by
  intro t
  induction t using STerm.ind with
  | arr xs ih =>
    intro ctx fuel rest hwf _ hf
    cases ctx with
    | set => cases hwf
    | fact =>
      obtain ⟨n, rfl, hn⟩ := fuel_sub 2 (by decide) hf
      have hl := terms0_of hd xs ih .fact n (']' :: rest) hwf ⟨']', rest, rfl, .inl rfl⟩ hn
      have hat : pAtom dateP ('[' :: (termsC xs ++ ']' :: rest)) = none :=
        pAtom_none_head hd _ (by decide) (by decide) (by decide) (by decide) (by decide)
      simp only [termC, List.cons_append, List.append_assoc, List.nil_append, pTerm, pArray,
        space0_cons _ (show isSpace '[' = false by decide), hat, ↓reduceIte, hl,
        space0_cons _ (show isSpace ']' = false by decide)]
  | map kvs ih =>
    intro ctx fuel rest hwf _ hf
    obtain ⟨n, rfl, hn⟩ := fuel_sub 2 (by decide) hf
    have hl := (kvs_of kvs ih n rest (by cases ctx <;> exact hwf) hn).1
    have hsp : isSpace '{' = false := by decide
    simp only [termC, List.cons_append, List.append_assoc, List.nil_append, pTerm, pMap, space0_cons _ hsp,
      pAtom_none_brace hd _ (pBraced_map kvs rest),
      pArray_err_head n _ hsp (by decide), ite_self, hl, space0_cons _ (show isSpace '}' = false by decide)]
  | set xs ih =>
    intro ctx fuel rest hwf _ hf
    cases ctx with
    | set => cases hwf
    | fact =>
      -- `set` is the last alternative: on a printed set the earlier ones must return `Error`. `{x` is not read as a
      -- parameter (`pBraced_set`), `{` does not open an array, and no `:` follows the first element (`notKey_setElem`)
      obtain ⟨hwl, hkind, hns⟩ := wfT_set hwf
      obtain ⟨n, rfl, hn⟩ := fuel_sub 4 (by decide) hf
      have hsp : isSpace '{' = false := by decide
      have harr := fun X => pArray_err_head (dateP := dateP) (n + 2) X hsp (by decide)
      cases xs with
      | nil =>
        have hmap : pMap dateP (n + 3) ('{' :: ',' :: '}' :: rest) = .err :=
          pMap_err_of_notKey n _ (.inl (pMapKey_none_head _ (by decide) (by decide)))
            (space0_head_ne _ (by decide) (by decide))
        have hat := pAtom_none_brace hd (',' :: '}' :: rest) (pBraced_nonalpha _ (by decide))
        have htag : tag ['{', ',', '}'] ('{' :: ',' :: '}' :: rest) = some rest := tag_append ['{', ',', '}'] rest
        simp only [termC, List.isEmpty_nil, ↓reduceIte, List.cons_append, List.nil_append, pTerm, space0_cons _ hsp, hat, harr,
          hmap, pSet, htag]
      | cons x xs' =>
        have hx := (wfL_cons hwl).1
        have hcl : Close ('}' :: rest) := ⟨'}', rest, rfl, .inr (.inl rfl)⟩
        have hl := (terms_of x xs' ih .set false (n + 2) ('}' :: rest) hwl hcl (Nat.le_add_right_of_le hn)).2
        obtain ⟨c, tl, hhead, hst⟩ := termC_start .set x hx
        obtain ⟨hspc, hne1, hne2, _⟩ := termStart_facts hst
        have hmap : pMap dateP (n + 3) ('{' :: (termC x ++ (tailC xs' ++ '}' :: rest))) = .err :=
          pMap_err_of_notKey n _ (notKey_setElem x _ hx (cont_tail xs' _ hcl))
            (by rw [hhead]; exact space0_head_ne _ hspc hne1)
        have hat := pAtom_none_brace hd _ (pBraced_set x xs' rest hx hns)
        have htag : tag ['{', ',', '}'] ('{' :: (termC x ++ (tailC xs' ++ '}' :: rest))) = none := by
          rw [hhead, List.cons_append, tag_cons, if_pos rfl]
          exact tag_none_head _ _ (Ne.symm hne2)
        simp only [termsC, List.append_assoc] at hl
        simp only [termC, List.isEmpty_cons, Bool.false_eq_true, ↓reduceIte, termsC, List.cons_append, List.append_assoc,
          List.nil_append, pTerm, space0_cons _ hsp, hat, harr, hmap, pSet, htag, hl, hkind, Bool.not_true,
          space0_cons _ (show isSpace '}' = false by decide)]
  | _ => exact scalar_rt hd _ rfl

theorem terms0_rt {dateP} (hd : DateShape dateP) : (ts : List STerm) → ∀ (ctx : Ctx) (fuel : Nat) (rest : List Char),
    wfL dateP ctx ts = true → Close rest → needL ts ≤ fuel →
    pTerms0 dateP ctx false fuel (termsC ts ++ rest) = .ok ts rest :=
  fun ts => terms0_of hd ts fun t _ => term_rt hd t

theorem terms1_rt {dateP} (hd : DateShape dateP) (ts : List STerm) (ctx : Ctx) (ce : Bool) (fuel : Nat) (rest : List Char)
    (hwf : wfL dateP ctx ts = true) (hne : ts ≠ []) (hc : Close rest) (hf : needL ts ≤ fuel) :
    pTerms1 dateP ctx ce fuel (termsC ts ++ rest) = .ok ts rest := by
  cases ts with
  | nil => exact absurd rfl hne
  | cons t ts => exact (terms_of t ts (fun u _ => term_rt hd u) ctx ce fuel rest hwf hc hf).2

theorem tail_rt {dateP} (hd : DateShape dateP) : (ts : List STerm) → ∀ (ctx : Ctx) (ce : Bool) (fuel : Nat) (rest : List Char),
    wfL dateP ctx ts = true → Close rest → needL ts ≤ fuel →
    pTermsTail dateP ctx ce fuel (tailC ts ++ rest) = .ok ts rest :=
  fun ts => tail_of ts fun t _ => term_rt hd t

theorem kvs0_rt {dateP} (hd : DateShape dateP) : (kvs : List (SKey × STerm)) → ∀ (fuel : Nat) (rest : List Char),
    wfKV dateP kvs = true → needKV kvs ≤ fuel →
    pKVs0 dateP fuel (kvsC kvs ++ '}' :: rest) = .ok kvs ('}' :: rest) :=
  fun kvs fuel rest hw hf => (kvs_of kvs (fun kv _ => term_rt hd kv.2) fuel rest hw hf).1

theorem kvtail_rt {dateP} (hd : DateShape dateP) : (kvs : List (SKey × STerm)) → ∀ (fuel : Nat) (rest : List Char),
    wfKV dateP kvs = true → needKV kvs ≤ fuel →
    pKVsTail dateP fuel (kvTailC kvs ++ '}' :: rest) = .ok kvs ('}' :: rest) :=
  fun kvs fuel rest hw hf => (kvs_of kvs (fun kv _ => term_rt hd kv.2) fuel rest hw hf).2

/-! ## the fuel the driver gives is enough -/

theorem termC_pos {dateP} (ctx : Ctx) (t : STerm) (h : wfT dateP ctx t = true) : 1 ≤ (termC t).length := by
  obtain ⟨c, tl, hs, _⟩ := termC_start ctx t h
  rw [hs]; exact Nat.le_add_left 1 _

theorem needL_tail {dateP} (ts : List STerm) (h : ∀ t ∈ ts, ∀ ctx, wfT dateP ctx t = true → needT t ≤ 5 * (termC t).length)
    (ctx : Ctx) (hwf : wfL dateP ctx ts = true) : needL ts ≤ 5 * (tailC ts).length + 4 := by
  induction ts with
  | nil => exact Nat.le_refl 4
  | cons t ts ih =>
    have hwf := wfL_cons hwf
    simp only [needL, tailC, List.length_cons, List.length_append]
    exact cover_cons 5 4 2 (by decide) (Nat.zero_le 4) (Nat.le_add_right_of_le (h t List.mem_cons_self ctx hwf.1))
      (ih (fun x hx => h x (List.mem_cons_of_mem _ hx)) hwf.2)

theorem needL_of {dateP} (ts : List STerm) (h : ∀ t ∈ ts, ∀ ctx, wfT dateP ctx t = true → needT t ≤ 5 * (termC t).length)
    (ctx : Ctx) (hwf : wfL dateP ctx ts = true) : needL ts ≤ 5 * (termsC ts).length + 4 := by
  cases ts with
  | nil => exact Nat.le_refl 4
  | cons t ts =>
    have hwf := wfL_cons hwf
    simp only [needL, termsC, List.length_append]
    exact cover_head (C' := 0) 5 4 (by decide) (by decide) (termC_pos ctx t hwf.1)
      (Nat.le_add_right_of_le (h t List.mem_cons_self ctx hwf.1))
      (needL_tail ts (fun x hx => h x (List.mem_cons_of_mem _ hx)) ctx hwf.2)

/-- one round of a map: the value pays for itself and for the step through `pKV`, the separator for the round -/
theorem needKV_cons {a b l m : Nat} (C x : Nat) (hC : 1 ≤ C) (ha : a ≤ 5 * l) (hb : b ≤ 5 * m + C) (hx : l + m + 2 ≤ x) :
    max (a + 1) b + 1 ≤ 5 * x + C :=
  cover_mono (cover_cons 5 C 2 (by decide) hC (Nat.add_le_add_right ha 1) hb) (Nat.le_refl 5) hx (Nat.le_refl C)

theorem needKV_tail {dateP} (kvs : List (SKey × STerm))
    (h : ∀ kv ∈ kvs, ∀ ctx, wfT dateP ctx kv.2 = true → needT kv.2 ≤ 5 * (termC kv.2).length) (hwf : wfKV dateP kvs = true) :
    needKV kvs ≤ 5 * (kvTailC kvs).length + 4 := by
  induction kvs with
  | nil => exact Nat.le_refl 4
  | cons kv kvs ih =>
    obtain ⟨k, v⟩ := kv
    obtain ⟨-, hv, hwf⟩ := wfKV_cons hwf
    simp only [needKV, kvTailC, List.length_cons, List.length_append]
    exact needKV_cons 4 _ (by decide) (h (k, v) List.mem_cons_self .fact hv)
      (ih (fun x hx => h x (List.mem_cons_of_mem _ hx)) hwf) (Nat.le_succ_of_le (Nat.le_succ_of_le (Nat.le_add_left _ _)))

theorem needKV_of {dateP} (kvs : List (SKey × STerm))
    (h : ∀ kv ∈ kvs, ∀ ctx, wfT dateP ctx kv.2 = true → needT kv.2 ≤ 5 * (termC kv.2).length) (hwf : wfKV dateP kvs = true) :
    needKV kvs ≤ 5 * (kvsC kvs).length + 5 := by
  cases kvs with
  | nil => exact Nat.le_add_left 4 1
  | cons kv kvs =>
    obtain ⟨k, v⟩ := kv
    obtain ⟨-, hv, hwf⟩ := wfKV_cons hwf
    simp only [needKV, kvsC, List.length_cons, List.length_append]
    exact needKV_cons 5 _ (by decide) (h (k, v) List.mem_cons_self .fact hv)
      (Nat.le_succ_of_le (needKV_tail kvs (fun x hx => h x (List.mem_cons_of_mem _ hx)) hwf)) (Nat.le_add_left _ _)

theorem needT_le {dateP} : (t : STerm) → ∀ ctx, wfT dateP ctx t = true → needT t ≤ 5 * (termC t).length := by
  intro t
  induction t using STerm.ind with
  | arr xs ih =>
    intro ctx h
    cases ctx with
    | set => cases h
    | fact =>
      simp only [needT, termC, List.length_cons, List.length_append, List.length_nil]
      exact cover_wrap 5 2 (needL_of xs ih .fact h) (by decide)
  | set xs ih =>
    intro ctx h
    cases ctx with
    | set => cases h
    | fact =>
      cases xs with
      | nil => decide
      | cons x xs' =>
        simp only [needT, termC, List.isEmpty_cons, Bool.false_eq_true, ↓reduceIte, List.length_cons, List.length_append,
          List.length_nil]
        exact cover_wrap 5 2 (needL_of (x :: xs') ih .set (wfT_set h).1) (by decide)
  | map kvs ih =>
    intro ctx h
    simp only [needT, termC, List.length_cons, List.length_append, List.length_nil]
    exact cover_wrap 5 2 (needKV_of kvs ih (by cases ctx <;> exact h)) (by decide)
  | var n => intro ctx h; cases h
  | _ => intro ctx h; exact Nat.le_trans (termC_pos ctx _ h) (Nat.le_mul_of_pos_left _ (by decide))

theorem needL_le {dateP} : (ts : List STerm) → ∀ ctx, wfL dateP ctx ts = true → needL ts ≤ 5 * (termsC ts).length + 4 :=
  fun ts => needL_of ts fun t _ => needT_le t

theorem needKV_le {dateP} : (kvs : List (SKey × STerm)) → wfKV dateP kvs = true → needKV kvs ≤ 5 * (kvsC kvs).length + 5 :=
  fun kvs => needKV_of kvs fun kv _ => needT_le kv.2

/-! ## C14 for facts -/

/-- **C14, facts (explicit fuel).** -/
theorem fact_round_trip_fuel {dateP} (hd : DateShape dateP) (p : SPred) (rest : List Char) (hwf : wfPred dateP p = true)
    (fuel : Nat) (hf : needL p.terms ≤ fuel) : pFactInner dateP fuel (predC p ++ rest) = .ok p rest := by
  obtain ⟨hname, htne, hwl⟩ := wfPred_parts hwf
  have hl := terms1_rt hd p.terms .fact true fuel (')' :: rest) hwl htne ⟨')', rest, rfl, .inr (.inr rfl)⟩ hf
  simp only [pFactInner, pName_predC p rest hname, space0_open _, hl,
    space0_close _, String.ofList_toList]

/-- **C14, facts.** The parser model the stream `termparse` runs against the real
    `fact_inner`, applied to the printed form of any grammar-derivable fact followed by any
    text, returns that fact and leaves that text. -/
theorem fact_round_trip {dateP} (hd : DateShape dateP) (p : SPred) (rest : List Char) (hwf : wfPred dateP p = true) :
    parseFactInner dateP ((printPred p).toList ++ rest) = .ok p rest := by
  rw [printPred_eq_predC]
  -- the terms are part of the text, and `fuelFor` gives 8 per character where they need 5
  refine fact_round_trip_fuel hd p rest hwf _
    (cover_mono (needL_le p.terms .fact (wfPred_parts hwf).2.2) (by decide) ?_ (by decide))
  simp only [predC, List.length_append, List.length_cons]
  exact Nat.le_trans (Nat.le_trans (Nat.le_add_right _ _) (Nat.le_succ_of_le (Nat.le_add_left _ _))) (Nat.le_add_right _ _)

/-! ## non-vacuity -/

theorem dateShape_none : DateShape (fun _ => none) := by
  constructor <;> (intro _ _ h; cases h)

def exFact : SPred :=
  ⟨"ns:f", [.int (-3), .arr [.str "a\", b(", .set [.int 1, .int 2], .arr []], .map [(.str "k", .null), (.int 7, .set [])],
    .bytes [1, 171], .set [.bool true, .bool false], .param "p_1"]⟩

example : wfPred (fun _ => none) exFact = true := by decide +kernel

example : parseFactInner (fun _ => none) ((printPred exFact).toList ++ [';', ' ', 'x']) = .ok exFact [';', ' ', 'x'] :=
  fact_round_trip dateShape_none exFact _ (by decide +kernel)

/-- a date parser that knows one date, as the harness's table would give it -/
def exDateP : List Char → Option Nat :=
  fun tok => if tok = ['2', '0', '2', '0', '-', '0', '1', '-', '0', '1', 'T', '0', '0', ':', '0', '0', ':', '0', '0', 'Z']
    then some 1577836800 else none

theorem dateShape_ex : DateShape exDateP := by
  constructor
  · intro tok t h
    simp only [exDateP] at h
    split at h
    · rename_i ht; subst ht; exact ⟨'2', _, rfl, by decide⟩
    · cases h
  · intro tok t h
    simp only [exDateP] at h
    split at h
    · rename_i ht; subst ht; rfl
    · cases h

end Biscuit.TermParser
