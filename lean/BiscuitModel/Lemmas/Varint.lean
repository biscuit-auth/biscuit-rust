/-
  Base-128 varints and the step of prost's field splitter: what `Model/Wire` writes,
  `Model/Keys` reads back.
-/
import BiscuitModel.Model.Keys
namespace Biscuit.Keys
open Biscuit Biscuit.Wire

theorem toNat_ofNat_lt (n : Nat) (h : n < 256) : (UInt8.ofNat n).toNat = n := by
  simp [Nat.mod_eq_of_lt h]

theorem decVarint_last (f n : Nat) (rest : Bytes) (h : n < 128) :
    decVarint (f + 1) (UInt8.ofNat n :: rest) = some (n, rest) := by
  rw [decVarint, toNat_ofNat_lt n (Nat.lt_trans h (by decide)), if_pos h]

theorem decVarint_more (f n : Nat) (bs : Bytes) :
    decVarint (f + 1) (UInt8.ofNat (n % 128 + 128) :: bs) =
      (decVarint f bs).map fun p => (n % 128 + 128 * p.1, p.2) := by
  have h : n % 128 + 128 < 256 := Nat.add_lt_add_right (Nat.mod_lt n (by decide)) 128
  rw [decVarint, toNat_ofNat_lt _ h, if_neg (Nat.not_lt.mpr (Nat.le_add_left 128 _)), Nat.add_sub_cancel]
  cases decVarint f bs <;> rfl

theorem varintAux_succ (f n : Nat) :
    varintAux (f + 1) n = if n < 128 then [UInt8.ofNat n] else UInt8.ofNat (n % 128 + 128) :: varintAux f (n / 128) := rfl

theorem decVarint_varintAux (rest : Bytes) (f n : Nat) (hn : n < 128 ^ (f + 1)) :
    decVarint (f + 1) (varintAux (f + 1) n ++ rest) = some (n, rest) := by
  rw [varintAux_succ]
  induction f generalizing n with
  | zero => rw [if_pos hn]; exact decVarint_last 0 n rest hn
  | succ f ih =>
    by_cases h : n < 128
    · rw [if_pos h]; exact decVarint_last _ n rest h
    · rw [if_neg h, List.cons_append, decVarint_more, varintAux_succ, ih _ (Nat.div_lt_of_lt_mul (Nat.pow_succ' ▸ hn)),
        Option.map_some, Nat.mod_add_div]

/-- every value below 2^64 survives the varint encoding, whatever follows it -/
theorem varint_round_trip (n : Nat) (rest : Bytes) (h : n < 2 ^ 64) :
    decVarint64 (varint n ++ rest) = some (n, rest) := by
  rw [decVarint64, varint, decVarint_varintAux rest 9 n (Nat.lt_of_lt_of_le h (by decide))]
  exact if_pos h

theorem decVarint_shorter {f : Nat} {bs : Bytes} {n : Nat} {r : Bytes} (h : decVarint f bs = some (n, r)) : r.length < bs.length := by
  induction f generalizing bs n with
  | zero => cases h
  | succ f ih =>
    cases bs with
    | nil => cases h
    | cons b rest =>
      rw [decVarint] at h
      by_cases hb : b.toNat < 128
      · rw [if_pos hb] at h; cases h; exact Nat.lt_succ_self _
      · rw [if_neg hb] at h
        cases hd : decVarint f rest with
        | none => rw [hd] at h; cases h
        | some p =>
          rw [hd] at h; cases h
          exact Nat.lt_succ_of_lt (ih hd)

theorem decVarint64_shorter {bs : Bytes} {n : Nat} {r : Bytes} (h : decVarint64 bs = some (n, r)) : r.length < bs.length := by
  rw [decVarint64] at h
  cases hd : decVarint 10 bs with
  | none => rw [hd] at h; cases h
  | some p =>
    rw [hd] at h
    obtain ⟨m, r'⟩ := p
    dsimp only at h
    split at h
    · cases h; exact decVarint_shorter hd
    · cases h

/-- One field off the front of a message.  Both wire types start with a second varint (the value,
    or the length of the byte string), so it is read before the wire type is looked at. -/
def decField (bs : Bytes) : Option ((Nat × WVal) × Bytes) :=
  match decVarint64 bs with
  | none => none
  | some (k, rest) =>
    match decVarint64 rest with
    | none => none
    | some (n, rest') =>
      if k / 8 = 0 then none
      else if k % 8 = 0 then some ((k / 8, .varint n), rest')
      else if k % 8 = 2 then
        if n ≤ rest'.length then some ((k / 8, .bytes (rest'.take n)), rest'.drop n) else none
      else none

theorem decFields_step (fuel : Nat) (bs : Bytes) (h : bs ≠ []) :
    decFields (fuel + 1) bs = (decField bs).bind fun p => (decFields fuel p.2).map (p.1 :: ·) := by
  rw [decFields.eq_3 bs fuel h, decField]
  cases decVarint64 bs with
  | none => rfl
  | some p =>
    dsimp only
    cases decVarint64 p.2 with
    | none => dsimp only; rw [ite_self, ite_self, ite_self]; rfl
    | some q =>
      -- `by_cases` and `rw` on both sides: `split` is slow on a goal with the same tests left and right
      dsimp only
      by_cases h0 : p.1 / 8 = 0
      · rw [if_pos h0, if_pos h0]; rfl
      rw [if_neg h0, if_neg h0]
      by_cases h1 : p.1 % 8 = 0
      · rw [if_pos h1, if_pos h1]; rfl
      rw [if_neg h1, if_neg h1]
      by_cases h2 : p.1 % 8 = 2
      · rw [if_pos h2, if_pos h2]
        by_cases h3 : q.1 ≤ q.2.length
        · rw [if_pos h3, if_pos h3]; rfl
        · rw [if_neg h3, if_neg h3]; rfl
      rw [if_neg h2, if_neg h2]; rfl

theorem decField_shorter {bs : Bytes} {x : Nat × WVal} {r : Bytes} (h : decField bs = some (x, r)) : r.length < bs.length := by
  rw [decField] at h
  cases hk : decVarint64 bs with
  | none => rw [hk] at h; cases h
  | some p =>
    rw [hk] at h; dsimp only at h
    cases hv : decVarint64 p.2 with
    | none => rw [hv] at h; cases h
    | some q =>
      rw [hv] at h; dsimp only at h
      have hq : q.2.length < bs.length := Nat.lt_trans (decVarint64_shorter hv) (decVarint64_shorter hk)
      rw [Option.ite_none_left_eq_some] at h
      by_cases h1 : p.1 % 8 = 0
      · rw [if_pos h1] at h; cases h.2; exact hq
      · rw [if_neg h1, Option.ite_none_right_eq_some, Option.ite_none_right_eq_some] at h
        cases h.2.2.2
        exact Nat.lt_of_le_of_lt (List.length_drop ▸ Nat.sub_le _ _) hq

end Biscuit.Keys
