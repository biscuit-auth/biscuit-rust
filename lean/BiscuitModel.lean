-- Root of the `BiscuitModel` library: model, lemmas, property theorems.
import BiscuitModel.Gen.Consts
import BiscuitModel.Model.Term
import BiscuitModel.Model.Symbols
import BiscuitModel.Model.Expr
import BiscuitModel.Model.Datalog
import BiscuitModel.Model.Authorizer
import BiscuitModel.Model.Intern
import BiscuitModel.Lemmas.List
import BiscuitModel.Lemmas.Datalog
import BiscuitModel.Lemmas.Authorizer
import BiscuitModel.Props.C01
import BiscuitModel.Props.C02
import BiscuitModel.Props.C02Convert
import BiscuitModel.Props.C02Normal
import BiscuitModel.Props.C03
import BiscuitModel.Props.C04
import BiscuitModel.Props.C05
import BiscuitModel.Props.C07
import BiscuitModel.Props.C08
import BiscuitModel.Props.C10
import BiscuitModel.Props.C12
import BiscuitModel.Props.C13
import BiscuitModel.Props.C15
import BiscuitModel.Props.C16
import BiscuitModel.Props.C11
import BiscuitModel.Model.Limits
import BiscuitModel.Lemmas.Congr
import BiscuitModel.Props.C06
import BiscuitModel.Model.Printer
import BiscuitModel.Model.Params
import BiscuitModel.Model.Keys
import BiscuitModel.Model.Untrusted
import BiscuitModel.Model.CApi
import BiscuitModel.Props.C09
import BiscuitModel.Props.C14
import BiscuitModel.Props.C17
import BiscuitModel.Props.C18
import BiscuitModel.Props.C19
import BiscuitModel.Props.C20
import BiscuitModel.Model.WireDec
import BiscuitModel.Lemmas.Varint
import BiscuitModel.Lemmas.WireDec
import BiscuitModel.Lemmas.Payload
import BiscuitModel.Model.TermParser
import BiscuitModel.Lemmas.TermParser
import BiscuitModel.Props.C14Terms
import BiscuitModel.Lemmas.KeyMapCongr
import BiscuitModel.Props.C20Parse
import BiscuitModel.Model.ExprParser
import BiscuitModel.Model.RuleParser
import BiscuitModel.Lemmas.ExprParser
import BiscuitModel.Props.C14Expr
import BiscuitModel.Props.C14Rules
import BiscuitModel.Model.BlockParser
import BiscuitModel.Props.C14Blocks
import BiscuitModel.Props.C14Fuel
