/-
  C08 — sealed tokens are final.
-/
import BiscuitModel.Props.C02
import BiscuitModel.Lemmas.Payload
namespace Biscuit.C08
open Biscuit Biscuit.C02

/-- `ThirdPartyRequest::from_container`: refused on a sealed token; otherwise carries the
    signature of the last block -/
def thirdPartyRequest (c : Container) : Option Bytes :=
  if c.isSealed then none else some c.lastBlock.sig

/-- **Every operation on a sealed token is refused**: append (first- or third-party), re-seal,
    third-party request — whatever their arguments. -/
theorem sealed_is_final (S : Scheme) (c : Container) (h : c.isSealed = true) :
    (∀ op, applyOp S c op = none) ∧ thirdPartyRequest c = none := by
  refine ⟨fun op => ?_, if_pos h⟩
  cases hs : c.proof with
  | secret sk => rw [Container.isSealed, hs] at h; cases h
  | sealed s =>
    cases op with
    | append a sk d e dv => unfold applyOp appendBlock; rw [hs]
    | sealOp => unfold applyOp sealToken; rw [hs]

/-- no history of operations gets past a sealed token -/
theorem sealed_history_refused (S : Scheme) (c : Container) (h : c.isSealed = true) (op : TokOp) (rest : List TokOp) :
    runOps S c (op :: rest) = none := by
  simp [runOps, (sealed_is_final S c h).1 op]

theorem seal_is_sealed (S : Scheme) (c c' : Container) (h : sealToken S c = some c') : c'.isSealed = true := by
  obtain ⟨_, _, rfl⟩ := sealToken_some h
  rfl

/-- **Sealing keeps the blocks**, the revocation identifiers, the external keys and the root
    key id. -/
theorem seal_preserves (S : Scheme) (c c' : Container) (h : sealToken S c = some c') :
    c'.authority = c.authority ∧ c'.blocks = c.blocks ∧ c'.rootKeyId = c.rootKeyId ∧
    c'.revocationIds = c.revocationIds ∧ c'.externalKeys = c.externalKeys := by
  obtain ⟨_, _, rfl⟩ := sealToken_some h
  exact ⟨rfl, rfl, rfl, rfl, rfl⟩

/-- the sealed token verifies under the same root key (needs only correctness of the scheme) -/
theorem seal_verifies (S : Scheme) (hS : Correct S) (root : PubKey) (c c' : Container)
    (hv : verifyToken S root c = true) (h : sealToken S c = some c') : verifyToken S root c' = true :=
  C02.seal_verifies S hS root c c' hv h

/-- **The seal binds the last block**: a sealed token verifies only if its final signature is a
    signature, by the last next key, over the last block's bytes, next key *and signature*. -/
theorem seal_binds_last_block (S : Scheme) (root : PubKey) (c : Container) (s : Bytes)
    (hs : c.proof = .sealed s) (hv : verifyToken S root c = true) :
    S.verify c.lastBlock.nextKey (Spec.sealed c.lastBlock.data c.lastBlock.nextKey c.lastBlock.sig) s = true := by
  have := ((verifyToken_iff S root c).mp hv).2.2.2
  rwa [hs] at this

/-- for block bytes and keys of equal lengths the seal payload determines its components
    (`C01.sealed_injective`: for keys and signatures of equal lengths) -/
theorem seal_payload_injective (d d' : Bytes) (k k' : PubKey) (s s' : Bytes)
    (hd : d.length = d'.length) (hk : k.bytes.length = k'.bytes.length) (ha : k.alg < 4294967296) (ha' : k'.alg < 4294967296)
    (h : Spec.sealed d k s = Spec.sealed d' k' s') : d = d' ∧ k = k' ∧ s = s' := by
  have h := fields_inj (p := [d, Gen.le32 k.alg, k.bytes]) (p' := [d', Gen.le32 k'.alg, k'.bytes]) (s := []) (s' := [])
    (by simp only [List.map_cons, hd, hk, le32_length]) rfl h
  simp only [List.cons.injEq, and_true] at h
  exact ⟨h.1.1, PubKey.eq_of ha ha' h.1.2.1 h.1.2.2, h.2⟩

end Biscuit.C08
