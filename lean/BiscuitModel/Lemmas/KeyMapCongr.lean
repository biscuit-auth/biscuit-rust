/-
  The key → blocks map: what appending a block does to it, and that a trusted set depends on it
  only through the keys its scope list names (used by C03: a third-party block nobody names
  leaves every earlier trusted set as it was).
-/
import BiscuitModel.Model.Authorizer
namespace Biscuit

theorem trustedFromScopes_congr_get (scopes : List Scope) (d : List Nat) (c : Nat) (km' km : KeyMap)
    (h : ∀ k, Scope.publicKey k ∈ scopes → KeyMap.get km' k = KeyMap.get km k) :
    trustedFromScopes scopes d c km' = trustedFromScopes scopes d c km := by
  unfold trustedFromScopes
  split
  · rfl
  · refine List.foldl_rel (r := Eq) rfl fun s hs acc _ e => e ▸ ?_
    cases s with
    | authority => rfl
    | previous => rfl
    | publicKey k => rw [scopeStep, scopeStep, h k hs]

theorem KeyMap.get_push (m : KeyMap) (k b k' : Nat) :
    KeyMap.get (KeyMap.push m k b) k' = if k' = k then KeyMap.get m k ++ [b] else KeyMap.get m k' := by
  induction m with
  | nil =>
    simp only [KeyMap.push, KeyMap.get]
    by_cases h : k' = k
    · simp [h]
    · simp [h, Ne.symm h]
  | cons x xs ih =>
    obtain ⟨kx, bs⟩ := x
    simp only [KeyMap.push]
    by_cases hk : kx = k
    · subst hk
      by_cases h : k' = kx
      · simp [KeyMap.get, h]
      · simp [KeyMap.get, h, Ne.symm h]
    · simp only [hk, ↓reduceIte, KeyMap.get, ih]
      by_cases h : kx = k'
      · have : k' ≠ k := h ▸ hk
        simp [h, this]
      · simp [h]

theorem keyMapFrom_append (xs ys : List Block) :
    ∀ i m, keyMapFrom (xs ++ ys) i m = keyMapFrom ys (i + xs.length) (keyMapFrom xs i m) := by
  induction xs with
  | nil => intro i m; rfl
  | cons x xs ih =>
    intro i m
    simp only [List.cons_append, keyMapFrom, List.length_cons, ih, Nat.add_comm xs.length, Nat.add_assoc]
    cases x.extKey <;> rfl

theorem keyMap_append_none (blocks : List Block) (b : Block) (hb : b.extKey = none) :
    keyMap (blocks ++ [b]) = keyMap blocks := by
  simp only [keyMap, keyMapFrom_append, keyMapFrom, hb]

theorem keyMap_append_some_get (blocks : List Block) (b : Block) (k : Nat) (hb : b.extKey = some k) (k' : Nat)
    (h : k' ≠ k) : KeyMap.get (keyMap (blocks ++ [b])) k' = KeyMap.get (keyMap blocks) k' := by
  simp only [keyMap, keyMapFrom_append, keyMapFrom, hb]
  split
  · rfl
  · rw [KeyMap.get_push, if_neg h]

end Biscuit
