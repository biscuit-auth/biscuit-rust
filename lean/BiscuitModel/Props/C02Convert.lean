/-
  C02 / C12 / C16 — a block and the protobuf message written for it.

  `block_round_trip`: for every block that passes the version gate (`loadGate`, C16) and whose
  collections are what the in-memory types hold — sets without duplicates, of one kind of
  element, holding neither variables nor sets; maps without duplicate keys; a key table without
  duplicates; key indices in scopes that fit `u64`; no default symbol among the block's own
  (`contentOK`) — reading the message `token_block_to_proto_block` writes gives back the block:
  same symbols, context, version, facts, rules, checks, scopes, public keys, external key.

  The hypotheses are the invariants of `BTreeSet` / `BTreeMap` plus the set typing rule; a set
  that breaks the typing rule can be put in a block through the builders, is written, and is then
  refused by the reader (`mixed_set_refused`).

  Each reader is opened once, into the conditions under which it returns a given result
  (`protoToBlock_ok_iff : protoToBlock p ext = .ok b ↔ Reads p ext b`, likewise for rules, checks
  and snapshot blocks), and so is the gate (`C16.loadGate_iff`).  A round trip builds a `Reads`; a
  theorem about accepted messages (`accepted_passes_gate`, Props/C02Normal) takes one apart.
-/
import BiscuitModel.Model.Convert
import BiscuitModel.Props.C16
namespace Biscuit.Convert
open Biscuit

/-! ## the regenerated tables: every operator is read back as itself -/

theorem unary_table (u : Unary) : decodeUnary (encUnaryKind u) (Unary.ffiName u) = .ok u := by
  cases u <;> rfl

theorem decBinary_encBinary (k : BinK) :
    Gen.binaryKindNumbers.contains ((Gen.encBinary.lookup k).getD (-1)) = true ∧
    findArm Gen.decBinary ((Gen.encBinary.lookup k).getD (-1)) (k == .ffi) = some k := by
  cases k <;> decide +kernel

theorem mkBinary_kind (b : Binary) :
    (Binary.ffiName b).isSome = (b.kind == .ffi) ∧ mkBinary b.kind (Binary.ffiName b) = some b := by
  cases b <;> exact ⟨rfl, rfl⟩

theorem binary_table (b : Binary) : decodeBinary (encBinaryKind b) (Binary.ffiName b) = .ok b := by
  simp only [decodeBinary, encBinaryKind, (mkBinary_kind b).1, decBinary_encBinary b.kind, Bool.not_true, Bool.false_eq_true,
    if_false, Option.bind_some, (mkBinary_kind b).2]

theorem check_kind_table (k : CheckKind) : protoToCheckKind (checkKindToProto k) = .ok k := by
  cases k <;> rfl

theorem checkKindToProto_inj {k k' : CheckKind} (h : checkKindToProto k = checkKindToProto k') : k = k' :=
  Except.ok.inj ((check_kind_table k).symm.trans ((congrArg protoToCheckKind h).trans (check_kind_table k')))

/-- one instance each, unary and binary: an ffi name on a regular operator, none on an extern call
    and a number that is no kind are refused -/
theorem ffi_name_checked :
    decodeUnary 0 (some 7) = .error .unaryFfiExtra ∧ decodeUnary 4 none = .error .unaryFfiMissing ∧
    decodeBinary 9 (some 7) = .error .binaryFfiExtra ∧ decodeBinary 28 none = .error .binaryFfiMissing ∧
    decodeUnary 5 none = .error .unaryEmpty ∧ decodeBinary 29 none = .error .binaryEmpty := by decide +kernel

/-! ## terms -/

def setElemOK : Term → Bool
  | .var _ => false
  | .set _ => false
  | _ => true

def kindIdx (k : TermK) : Nat := (Gen.setElemKind.lookup k).getD 0

theorem setIndex_ok (t : Term) (h : setElemOK t = true) : setIndex (termToProto t) = .ok (kindIdx t.kind) := by
  cases t with
  | var _ | set _ => cases h
  | _ => rfl

/-- no element of `xs` is already in `acc`, nor twice in `xs` -/
def freshFrom : List Term → List Term → Bool
  | _, [] => true
  | acc, x :: xs => !acc.any (Term.beq x) && freshFrom (acc ++ [x]) xs

def freshKeys : List (MapKey × Term) → List (MapKey × Term) → Bool
  | _, [] => true
  | acc, (k, t) :: r => !acc.any (fun kv => kv.1 == k) && freshKeys (acc ++ [(k, t)]) r

mutual
/-- what the in-memory types guarantee (no duplicates) and the typing rule of sets -/
def termOK : Term → Bool
  | .set xs => termsOK xs && xs.all setElemOK && xs.all (fun x => x.kind == (xs.head?.map Term.kind).getD .null) && freshFrom [] xs
  | .arr xs => termsOK xs
  | .map kvs => kvsOK kvs && freshKeys [] kvs
  | _ => true
def termsOK : List Term → Bool
  | [] => true
  | t :: ts => termOK t && termsOK ts
def kvsOK : List (MapKey × Term) → Bool
  | [] => true
  | (_, t) :: r => termOK t && kvsOK r
end

theorem mapInsert_fresh : ∀ (acc : List (MapKey × Term)) (k : MapKey) (t : Term),
    acc.any (fun kv => kv.1 == k) = false → mapInsert acc k t = acc ++ [(k, t)] := by
  intro acc
  induction acc with
  | nil => intro k t _; rfl
  | cons kv r ih =>
    intro k t h
    obtain ⟨k', t'⟩ := kv
    simp only [List.any_cons, Bool.or_eq_false_iff, beq_eq_false_iff_ne, ne_eq] at h
    simp only [mapInsert, h.1, ↓reduceIte, List.cons_append, ih k t h.2]

mutual
theorem term_rt : (t : Term) → termOK t = true → protoToTerm (termToProto t) = .ok t
  | .var _ | .int _ | .str _ | .date _ | .bytes _ | .bool _ | .null => fun _ => rfl
  | .set xs => fun h => by
    simp only [termOK, Bool.and_eq_true] at h
    have hk : ∀ x ∈ xs, x.kind = (xs.head?.map Term.kind).getD .null := fun x hx =>
      beq_iff_eq.mp (List.all_eq_true.mp h.1.2 x hx)
    have := set_rt xs [] none ((xs.head?.map Term.kind).getD .null) h.1.1.1 (List.all_eq_true.mp h.1.1.2) hk (.inl rfl) h.2
    dsimp only [termToProto, protoToTerm]; rw [this]; rfl
  | .arr xs => fun h => by
    simp only [termOK] at h
    dsimp only [termToProto, protoToTerm]; rw [terms_rt xs h]
  | .map kvs => fun h => by
    simp only [termOK, Bool.and_eq_true] at h
    dsimp only [termToProto, protoToTerm]; rw [kvs_rt kvs [] h.1 h.2]; rfl
theorem terms_rt : (ts : List Term) → termsOK ts = true → protoToTerms (termsToProto ts) = .ok ts
  | [] => fun _ => rfl
  | t :: ts => fun h => by
    simp only [termsOK, Bool.and_eq_true] at h
    dsimp only [termsToProto, protoToTerms]; rw [term_rt t h.1, terms_rt ts h.2]
theorem set_rt : (xs : List Term) → (acc : List Term) → (kind : Option Nat) → (k : TermK) → termsOK xs = true →
    (∀ x ∈ xs, setElemOK x = true) → (∀ x ∈ xs, x.kind = k) → (kind = none ∨ kind = some (kindIdx k)) →
    freshFrom acc xs = true → protoToSet (termsToProto xs) kind acc = .ok (acc ++ xs)
  | [] => fun acc kind k _ _ _ _ _ => by rw [List.append_nil]; rfl
  | x :: xs => fun acc kind k hok hel hk hkind hfresh => by
    simp only [termsOK, Bool.and_eq_true] at hok
    simp only [freshFrom, Bool.and_eq_true, Bool.not_eq_true'] at hfresh
    have hx := hk x List.mem_cons_self
    have hidx := setIndex_ok x (hel x List.mem_cons_self)
    rw [hx] at hidx
    have hnomix : (kind.isSome && kind != some (kindIdx k)) = false := by
      rcases hkind with rfl | rfl
      · rfl
      · rw [Option.isSome_some, Bool.true_and, bne_self_eq_false]
    have hrest := set_rt xs (acc ++ [x]) (some (kindIdx k)) k hok.2 (fun y hy => hel y (List.mem_cons_of_mem _ hy))
      (fun y hy => hk y (List.mem_cons_of_mem _ hy)) (.inr rfl) hfresh.2
    simp only [termsToProto, protoToSet, hidx, hnomix, Bool.false_eq_true, ↓reduceIte, term_rt x hok.1, setInsert, hfresh.1, hrest,
      List.append_assoc, List.cons_append, List.nil_append]
theorem kvs_rt : (kvs : List (MapKey × Term)) → (acc : List (MapKey × Term)) → kvsOK kvs = true → freshKeys acc kvs = true →
    protoToMap (kvsToProto kvs) acc = .ok (acc ++ kvs)
  | [] => fun acc _ _ => by rw [List.append_nil]; rfl
  | (k, t) :: r => fun acc hok hfresh => by
    simp only [kvsOK, Bool.and_eq_true] at hok
    simp only [freshKeys, Bool.and_eq_true, Bool.not_eq_true'] at hfresh
    have hrest := kvs_rt r (acc ++ [(k, t)]) hok.2 hfresh.2
    simp only [kvsToProto, protoToMap, term_rt t hok.1, mapInsert_fresh acc k t hfresh.1, hrest, List.append_assoc, List.cons_append,
      List.nil_append]
end

/-! ## operators -/

mutual
def opOK : Op → Bool
  | .value t => termOK t
  | .closure _ ops => opsOK ops
  | _ => true
def opsOK : List Op → Bool
  | [] => true
  | o :: os => opOK o && opsOK os
end

mutual
theorem op_rt : (o : Op) → opOK o = true → protoToOp (opToProto o) = .ok o
  | .value t => fun h => by simp only [opOK] at h; simp only [opToProto, protoToOp, term_rt t h]
  | .unary u => fun _ => by simp only [opToProto, protoToOp, unary_table u]
  | .binary b => fun _ => by simp only [opToProto, protoToOp, binary_table b]
  | .closure ps ops => fun h => by simp only [opOK] at h; simp only [opToProto, protoToOp, ops_rt ops h]
theorem ops_rt : (os : List Op) → opsOK os = true → protoToOps (opsToProto os) = .ok os
  | [] => fun _ => rfl
  | o :: os => fun h => by
    simp only [opsOK, Bool.and_eq_true] at h
    simp only [opsToProto, protoToOps, op_rt o h.1, ops_rt os h.2]
end

/-! ## lists: `mapR` written and read -/

theorem mapR_map {α β : Type} {f : β → R α} {g : α → β} {ok : α → Bool} (hrt : ∀ x, ok x = true → f (g x) = .ok x)
    {l : List α} (h : l.all ok = true) : mapR f (l.map g) = .ok l := by
  induction l with
  | nil => rfl
  | cons x xs ih =>
    rw [List.all_cons, Bool.and_eq_true] at h
    rw [List.map_cons, mapR, hrt x h.1, ih h.2]

theorem mapR_mem {α β : Type} {f : α → R β} : ∀ {l : List α} {l' : List β}, mapR f l = .ok l' →
    ∀ y ∈ l', ∃ x ∈ l, f x = .ok y := by
  intro l
  induction l with
  | nil => intro l' h y hy; cases h; cases hy
  | cons a l ih =>
    intro l' h y hy
    simp only [mapR] at h
    split at h
    · cases h
    · rename_i b ha
      split at h
      · rename_i bs hl
        cases h
        rcases List.mem_cons.mp hy with rfl | hy'
        · exact ⟨a, List.mem_cons_self, ha⟩
        · obtain ⟨x, hx, hfx⟩ := ih hl y hy'
          exact ⟨x, List.mem_cons_of_mem _ hx, hfx⟩
      · cases h

theorem all_of_mapR {α β : Type} {f : α → R β} {P : β → Bool} {l : List α} {l' : List β} (h : mapR f l = .ok l')
    (hp : ∀ x y, f x = .ok y → P y = true) : l'.all P = true := by
  rw [List.all_eq_true]
  intro y hy
  obtain ⟨x, _, hx⟩ := mapR_mem h y hy
  exact hp x y hx

/-! ## tests that refuse -/

theorem ok_of_ite {ε α : Type} {c : Prop} [Decidable c] {e : ε} {r : Except ε α} {a : α}
    (h : (if c then .error e else r) = .ok a) : ¬ c ∧ r = .ok a := by
  by_cases hc : c
  · rw [if_pos hc] at h; cases h
  · rw [if_neg hc] at h; exact ⟨hc, h⟩

/-- the `else` branch of `if !(c) then … else …` -/
theorem of_not_not_decide {c : Prop} [Decidable c] (h : ¬ (!Decidable.decide c) = true) : c :=
  Decidable.byContradiction fun hc => h (by rw [decide_eq_false hc]; rfl)

/-! ## scopes, predicates, rules, checks -/

def scopeOK : Scope → Bool
  | .publicKey k => k < two64
  | _ => true

theorem scope_rt (s : Scope) (h : scopeOK s = true) : protoToScope (scopeToProto s) = .ok s := by
  cases s with
  | authority => rfl
  | previous => rfl
  | publicKey k =>
    have hk : (k : Int) < (two64 : Int) := Int.ofNat_lt.mpr (of_decide_eq_true h)
    -- either way the number written is `k` plus a multiple of 2^64
    have back : ∀ c : Int, (((k : Int) + c * (two64 : Int)) % (two64 : Int)).toNat = k := fun c => by
      rw [Int.add_mul_emod_self_right, Int.emod_eq_of_lt (Int.natCast_nonneg k) hk, Int.toNat_natCast]
    refine congrArg (fun n => Except.ok (Scope.publicKey n)) ?_
    by_cases hlt : k < two63
    · rw [if_pos hlt]
      have := back 0
      rwa [Int.zero_mul, Int.add_zero] at this
    · rw [if_neg hlt]
      have := back (-1)
      rwa [Int.neg_mul, Int.one_mul, ← Int.sub_eq_add_neg] at this

def predOK (p : Predicate) : Bool := termsOK p.terms

theorem pred_rt (p : Predicate) (h : predOK p = true) : protoToPred (predToProto p) = .ok p := by
  simp only [predOK] at h
  simp only [predToProto, protoToPred, terms_rt p.terms h]

def ruleOK (version : Nat) (q : QRule) : Bool :=
  predOK q.rule.head && q.rule.body.all predOK && q.rule.exprs.all opsOK && q.scopes.all scopeOK &&
    !(Decidable.decide (version < Gen.datalog31) && !q.scopes.isEmpty)

theorem protoToRule_ok_iff (v : Nat) (r : PRule) (q : QRule) : protoToRule v r = .ok q ↔
    mapR protoToPred r.body = .ok q.rule.body ∧ mapR protoToOps r.exprs = .ok q.rule.exprs ∧
    (v < Gen.datalog31 → r.scope = []) ∧ mapR protoToScope r.scope = .ok q.scopes ∧
    protoToPred r.head = .ok q.rule.head := by
  constructor
  · intro h
    unfold protoToRule at h
    split at h
    · cases h
    rename_i body hbody
    split at h
    · cases h
    rename_i exprs hexprs
    obtain ⟨hgate, h⟩ := ok_of_ite h
    split at h
    · cases h
    rename_i scopes hscopes
    split at h
    · cases h
    rename_i head hhead
    cases h
    refine ⟨hbody, hexprs, fun hv => ?_, hscopes, hhead⟩
    cases hr : r.scope with
    | nil => rfl
    | cons x xs => exact absurd ⟨hv, by rw [hr]; rfl⟩ hgate
  · obtain ⟨⟨h, b, e⟩, s⟩ := q
    rintro ⟨h1, h2, hg, h3, h4⟩
    have hg : ¬ (v < Gen.datalog31 ∧ (!r.scope.isEmpty) = true) := fun ⟨hv, he⟩ => by rw [hg hv] at he; cases he
    simp only [protoToRule, h1, h2, hg, ↓reduceIte, h3, h4]

theorem rule_rt (version : Nat) (q : QRule) (h : ruleOK version q = true) : protoToRule version (ruleToProto q) = .ok q := by
  simp only [ruleOK, Bool.and_eq_true, Bool.not_eq_true', Bool.and_eq_false_imp, decide_eq_true_eq, Bool.not_eq_false',
    List.isEmpty_iff] at h
  obtain ⟨⟨⟨⟨hh, hb⟩, he⟩, hs⟩, hv⟩ := h
  exact (protoToRule_ok_iff ..).mpr ⟨mapR_map pred_rt hb, mapR_map ops_rt he, fun a => congrArg (List.map scopeToProto) (hv a),
    mapR_map scope_rt hs, pred_rt q.rule.head hh⟩

theorem rule_scopes_gate (v : Nat) (r : PRule) (q : QRule) (h : protoToRule v r = .ok q) (hv : v < Gen.datalog31) :
    q.scopes = [] := by
  obtain ⟨_, _, hg, hs, _⟩ := (protoToRule_ok_iff ..).mp h
  rw [hg hv] at hs
  exact (Except.ok.inj hs).symm

def checkOK (version : Nat) (c : Check) : Bool := c.queries.all (ruleOK version)

theorem protoToCheck_ok_iff (v : Nat) (c : PCheck) (ck : Check) : protoToCheck v c = .ok ck ↔
    mapR (protoToRule v) c.queries = .ok ck.queries ∧ protoToCheckKind c.kind = .ok ck.kind := by
  constructor
  · intro h
    unfold protoToCheck at h
    split at h
    · cases h
    · rename_i qs hq
      split at h
      · rename_i k hk
        cases h
        exact ⟨hq, hk⟩
      · cases h
  · obtain ⟨k, qs⟩ := ck
    rintro ⟨h1, h2⟩
    simp only [protoToCheck, h1, h2]

theorem check_rt (version : Nat) (c : Check) (h : checkOK version c = true) : protoToCheck version (checkToProto c) = .ok c :=
  (protoToCheck_ok_iff ..).mpr ⟨mapR_map (rule_rt version) h, check_kind_table c.kind⟩

theorem decoded_kind (k : Option Int) (ck : CheckKind) (h : protoToCheckKind k = .ok ck) :
    (¬ k.isSome = true → ck = .one) ∧ (ck = .reject → k = checkKindToProto .reject) := by
  cases k with
  | none => cases h; exact ⟨fun _ => rfl, nofun⟩
  | some i =>
    refine ⟨fun hn => absurd rfl hn, fun hr => ?_⟩
    subst hr
    simp only [protoToCheckKind] at h
    cases hl : Gen.decCheckKind.lookup i with
    | none => rw [hl] at h; cases h
    | some k =>
      rw [hl] at h; cases h
      -- the rows of `decCheckKind`, one after the other
      simp only [Gen.decCheckKind, List.lookup] at hl
      split at hl
      · cases hl
      · split at hl
        · cases hl
        · split at hl
          · rename_i h2; rw [beq_iff_eq.mp h2]; rfl
          · cases hl

/-! ## blocks -/

def nodupNat : List Nat → List Nat → Bool
  | _, [] => true
  | acc, k :: ks => !acc.contains k && nodupNat (acc ++ [k]) ks

theorem loadKeys_rt : ∀ (ks acc : List Nat), nodupNat acc ks = true → loadKeys (ks.map some) acc = .ok (acc ++ ks) := by
  intro ks
  induction ks with
  | nil => intro acc _; rw [List.append_nil]; rfl
  | cons k ks ih =>
    intro acc h
    simp only [nodupNat, Bool.and_eq_true, Bool.not_eq_true'] at h
    simp only [List.map_cons, loadKeys, h.1, Bool.false_eq_true, ↓reduceIte, ih (acc ++ [k]) h.2, List.append_assoc, List.cons_append,
      List.nil_append]

/-- the content of a block is what the in-memory types can hold -/
def contentOK (b : TBlock) : Bool :=
  b.core.facts.all predOK && b.core.rules.all (ruleOK b.version) && b.core.checks.all (checkOK b.version) &&
    b.core.scopes.all scopeOK && nodupNat [] b.publicKeys && !(b.symbols.any fun s => Gen.defaultSymbols.contains s)

theorem compatErr_eq_none (f : Flags) (v : Nat) : compatErr f v = none ↔ compatible f v = true := by
  obtain ⟨sc, o31, ca, o33⟩ := f
  simp only [compatible, compatErr]
  -- a table over the three comparisons of the declared version and the four flags
  generalize Decidable.decide (v < Gen.datalog33) = a
  generalize Decidable.decide (v < Gen.datalog31) = b
  generalize Decidable.decide (Gen.datalog31 ≤ v) = c
  revert a b c sc o31 ca o33
  decide +kernel

/-- the four lists of a message, read under version `v`, are those of `c` (both readers) -/
structure ReadsCore (v : Nat) (pf : List PPred) (pr : List PRule) (pc : List PCheck) (ps : List PScope) (c : Block) : Prop where
  facts : mapR protoToPred pf = .ok c.facts
  rules : mapR (protoToRule v) pr = .ok c.rules
  checks : mapR (protoToCheck v) pc = .ok c.checks
  scopes : mapR protoToScope ps = .ok c.scopes

theorem ReadsCore.of_content {v : Nat} {c : Block} (hf : c.facts.all predOK = true) (hr : c.rules.all (ruleOK v) = true)
    (hc : c.checks.all (checkOK v) = true) (hs : c.scopes.all scopeOK = true) :
    ReadsCore v (c.facts.map predToProto) (c.rules.map ruleToProto) (c.checks.map checkToProto) (c.scopes.map scopeToProto) c :=
  ⟨mapR_map pred_rt hf, mapR_map (rule_rt v) hr, mapR_map (check_rt v) hc, mapR_map scope_rt hs⟩

theorem ReadsCore.no_scopes {v : Nat} {pf pr pc ps} {c : Block} (h : ReadsCore v pf pr pc ps c) (hv : v < Gen.datalog31) :
    (∀ q ∈ c.rules, q.scopes = []) ∧ ∀ ck ∈ c.checks, ∀ q ∈ ck.queries, q.scopes = [] := by
  refine ⟨fun q hq => ?_, fun ck hck q hq => ?_⟩
  · obtain ⟨r, _, hr⟩ := mapR_mem h.rules q hq
    exact rule_scopes_gate _ r q hr hv
  · obtain ⟨pc, _, hpc⟩ := mapR_mem h.checks ck hck
    obtain ⟨r, _, hr⟩ := mapR_mem ((protoToCheck_ok_iff ..).mp hpc).1 q hq
    exact rule_scopes_gate _ r q hr hv

theorem ReadsCore.kind {v : Nat} {pf pr pc ps} {c : Block} (h : ReadsCore v pf pr pc ps c) (ck : Check) (hck : ck ∈ c.checks) :
    ∃ p ∈ pc, (¬ p.kind.isSome = true → ck.kind = .one) ∧ (ck.kind = .reject → p.kind = checkKindToProto .reject) := by
  obtain ⟨p, hp, hpc⟩ := mapR_mem h.checks ck hck
  exact ⟨p, hp, decoded_kind p.kind ck.kind ((protoToCheck_ok_iff ..).mp hpc).2⟩

/-- the message `p`, read with external key `ext`, is the block `b`: what `protoToBlock` checks,
    in any order -/
structure Reads (p : PBlock) (ext : Option Nat) (b : TBlock) : Prop where
  version : b.version = p.version.getD 0
  range : Gen.minSchemaVersion ≤ b.version ∧ b.version ≤ Gen.maxSchemaVersion
  core : ReadsCore b.version p.facts p.rules p.checks p.scope b.core
  kinds : b.version < Gen.maxSchemaVersion → checkKindsGate b.version p.checks = .ok ()
  thirdParty : b.version < Gen.datalog32 → ext.isSome = false
  keys : loadKeys p.publicKeys [] = .ok b.publicKeys
  symbols : (p.symbols.any fun s => Gen.defaultSymbols.contains s) = false
  compat : compatErr (blockFlags codeTerm33 codeOp33 codeOp31 Gen.checkAllDetected Gen.rejectDetected b.core) b.version = none
  rest : b.symbols = p.symbols ∧ b.context = p.context ∧ b.core.extKey = ext

theorem protoToBlock_ok_iff (p : PBlock) (ext : Option Nat) (b : TBlock) : protoToBlock p ext = .ok b ↔ Reads p ext b := by
  constructor
  · intro h
    unfold protoToBlock at h
    dsimp only at h
    obtain ⟨hrange, h⟩ := ok_of_ite h
    split at h
    · cases h
    rename_i facts hfacts
    split at h
    · cases h
    rename_i rules hrules
    split at h
    · cases h
    rename_i hgate
    obtain ⟨htp, h⟩ := ok_of_ite h
    split at h
    · cases h
    rename_i checks hchecks
    split at h
    · cases h
    rename_i scopes hscopes
    split at h
    · cases h
    rename_i keys hkeys
    obtain ⟨hsym, h⟩ := ok_of_ite h
    split at h
    · cases h
    rename_i hcompat
    cases h
    exact ⟨rfl, of_not_not_decide hrange, ⟨hfacts, hrules, hchecks, hscopes⟩, fun hv => (if_pos hv).symm.trans hgate,
      fun hv => Bool.eq_false_iff.mpr fun he => htp ⟨hv, he⟩, hkeys,
      Bool.eq_false_iff.mpr hsym, hcompat, rfl, rfl, rfl⟩
  · rintro ⟨hv, hrange, ⟨h1, h2, h3, h4⟩, hk, htp, h5, hsym, hcompat, hsy, hcx, hext⟩
    obtain ⟨sy, cx, v, ⟨f, r, c, sc, e⟩, pk⟩ := b
    simp only at hv hrange h1 h2 h3 h4 hk htp h5 hcompat hsy hcx hext
    subst hv hsy hcx hext
    have htp : ¬ (p.version.getD 0 < Gen.datalog32 ∧ e.isSome = true) := fun ⟨hv, he⟩ => Bool.false_ne_true ((htp hv).symm.trans he)
    have hgate : (if p.version.getD 0 < Gen.maxSchemaVersion then checkKindsGate (p.version.getD 0) p.checks else .ok ()) = .ok () := by
      split
      · exact hk ‹_›
      · rfl
    simp only [protoToBlock, hrange, and_self, decide_true, Bool.not_true, Bool.false_eq_true, ↓reduceIte, h1, h2, hgate, htp, h3, h4, h5,
      hsym, hcompat]

theorem checkKindsGate_ok (v : Nat) (cs : List Check)
    (h : ∀ c ∈ cs, (v < Gen.datalog31 → c.kind = .one) ∧ (v < Gen.datalog33 → c.kind ≠ .reject)) :
    checkKindsGate v (cs.map checkToProto) = .ok () := by
  induction cs with
  | nil => rfl
  | cons c cs ih =>
    obtain ⟨h31, h33⟩ := h c List.mem_cons_self
    have h1 : ¬ (v < Gen.datalog31 ∧ (checkToProto c).kind.isSome = true) := fun ⟨a, b⟩ => by
      rw [checkToProto, h31 a] at b; cases b
    have h2 : ¬ (v < Gen.datalog33 ∧ (checkToProto c).kind = (Gen.encCheckKind.lookup CheckKind.reject).getD none) :=
      fun ⟨a, b⟩ => h33 a (checkKindToProto_inj b)
    rw [List.map_cons, checkKindsGate, if_neg h1, if_neg h2]
    exact ih fun c hc => h c (List.mem_cons_of_mem _ hc)

theorem checkKindsGate_mem (v : Nat) : ∀ cs : List PCheck, checkKindsGate v cs = .ok () → ∀ c ∈ cs,
    ¬ (v < Gen.datalog31 ∧ c.kind.isSome = true) ∧
    ¬ (v < Gen.datalog33 ∧ c.kind = checkKindToProto .reject) := by
  intro cs
  induction cs with
  | nil => intro _ c hc; cases hc
  | cons a cs ih =>
    intro h c hc
    unfold checkKindsGate at h
    obtain ⟨h1, h⟩ := ok_of_ite h
    obtain ⟨h2, h⟩ := ok_of_ite h
    rcases List.mem_cons.mp hc with rfl | hc'
    · exact ⟨h1, h2⟩
    · exact ih h c hc'

/-- **A block reads back as itself.** -/
theorem block_round_trip (b : TBlock) (hg : loadGate b.version b.core.extKey.isSome b.core = true) (hc : contentOK b = true) :
    protoToBlock (blockToProto b) b.core.extKey = .ok b := by
  obtain ⟨hrange, _, hkinds, htp, hcompat⟩ := (C16.loadGate_iff ..).mp hg
  simp only [contentOK, Bool.and_eq_true, Bool.not_eq_true'] at hc
  obtain ⟨⟨⟨⟨⟨hf, hr⟩, hck⟩, hs⟩, hkeys⟩, hsym⟩ := hc
  exact (protoToBlock_ok_iff ..).mpr ⟨rfl, hrange, .of_content hf hr hck hs, fun hv => checkKindsGate_ok _ _ (hkinds hv),
    htp, loadKeys_rt b.publicKeys [] hkeys, hsym, (compatErr_eq_none ..).mpr hcompat, rfl, rfl, rfl⟩

/-! ## what the reader refuses -/

/-- a set of two kinds of elements can be written and is refused when read -/
theorem mixed_set_refused :
    protoToTerm (termToProto (.set [.int 1, .str 1024])) = .error .setMixed ∧
    protoToTerm (termToProto (.set [.set []])) = .error .setSet ∧
    protoToTerm (termToProto (.set [.var 0])) = .error .setVariable := by decide +kernel

/-! ## what the reader accepts passes the version gate of C16 -/

/-- **What the reader accepts passes the version gate**: `gate_sound` (C16) applies to every block
    `proto_block_to_token_block` returns. -/
theorem accepted_passes_gate (p : PBlock) (ext : Option Nat) (b : TBlock) (h : protoToBlock p ext = .ok b) :
    loadGate b.version ext.isSome b.core = true ∧ b.core.extKey = ext ∧ b.version = p.version.getD 0 := by
  obtain ⟨hv, hrange, hcore, hkinds, htp, _, _, hcompat, _, _, hext⟩ := (protoToBlock_ok_iff ..).mp h
  refine ⟨(C16.loadGate_iff ..).mpr ⟨hrange, hcore.no_scopes, fun hlt c hc => ?_, htp, (compatErr_eq_none ..).mp hcompat⟩, hext, hv⟩
  -- the pass over the kinds of the message, and what each kind is read as
  obtain ⟨pc, hpcm, hnone, hrej⟩ := hcore.kind c hc
  have hg := checkKindsGate_mem _ _ (hkinds hlt) pc hpcm
  exact ⟨fun h31 => hnone fun hs => hg.1 ⟨h31, hs⟩, fun h33 hr => hg.2 ⟨h33, hrej hr⟩⟩

/-! ## snapshot blocks (C13) -/

theorem blockFlags_extKey {t33 : Term → Bool} {o33 o31 : Op → Bool} {a r : Bool} (b : Block) (e : Option Nat) :
    blockFlags t33 o33 o31 a r ⟨b.facts, b.rules, b.checks, b.scopes, e⟩ = blockFlags t33 o33 o31 a r b := by
  cases b; rfl

/-- the snapshot message `p` is the block `b`: what `protoToSnapshotBlock` checks -/
structure SnapReads (p : PSnapBlock) (b : TBlock) : Prop where
  version : b.version = p.version.getD 0
  range : Gen.minSchemaVersion ≤ b.version ∧ b.version ≤ Gen.maxSchemaVersion
  core : ReadsCore b.version p.facts p.rules p.checks p.scope b.core
  kinds : ¬ (b.version = Gen.minSchemaVersion ∧ (p.checks.any fun c => c.kind.isSome) = true)
  compat : compatErr (blockFlags codeTerm33 codeOp33 codeOp31 Gen.checkAllDetected Gen.rejectDetected b.core) b.version = none
  key : p.externalKey = b.core.extKey.map some
  rest : b.symbols = [] ∧ b.context = p.context ∧ b.publicKeys = []

theorem protoToSnapshotBlock_ok_iff (p : PSnapBlock) (b : TBlock) : protoToSnapshotBlock p = .ok b ↔ SnapReads p b := by
  constructor
  · intro h
    unfold protoToSnapshotBlock at h
    dsimp only at h
    obtain ⟨hrange, h⟩ := ok_of_ite h
    have hr := of_not_not_decide hrange
    split at h
    · cases h
    rename_i facts hfacts
    split at h
    · cases h
    rename_i rules hrules
    obtain ⟨hgate, h⟩ := ok_of_ite h
    split at h
    · cases h
    rename_i checks hchecks
    split at h
    · cases h
    rename_i scopes hscopes
    split at h
    · cases h
    rename_i hcompat
    split at h
    · cases h
    · rename_i hk; cases h
      exact ⟨rfl, hr, ⟨hfacts, hrules, hchecks, hscopes⟩, hgate, (blockFlags_extKey ⟨facts, rules, checks, scopes, none⟩ _).symm ▸ hcompat, hk,
        rfl, rfl, rfl⟩
    · rename_i hk; cases h
      exact ⟨rfl, hr, ⟨hfacts, hrules, hchecks, hscopes⟩, hgate, hcompat, hk, rfl, rfl, rfl⟩
  · rintro ⟨hv, hrange, ⟨h1, h2, h3, h4⟩, hk, hcompat, hkey, hsy, hcx, hpk⟩
    obtain ⟨sy, cx, v, ⟨f, r, c, sc, e⟩, pk⟩ := b
    simp only at hv hrange h1 h2 h3 h4 hk hcompat hkey hsy hcx hpk
    subst hv hsy hcx hpk
    rw [← blockFlags_extKey ⟨f, r, c, sc, e⟩ none] at hcompat
    simp only [protoToSnapshotBlock, hrange, and_self, decide_true, Bool.not_true, Bool.false_eq_true, ↓reduceIte, h1, h2, hk, h3, h4,
      hcompat, hkey]
    cases e <;> rfl

/-- **A block of an authorizer snapshot reads back as itself** (its symbols and public keys are
    kept in the snapshot's own tables, not in the block message). -/
theorem snapshot_block_round_trip (b : TBlock) (hsy : b.symbols = []) (hpk : b.publicKeys = [])
    (hg : loadGate b.version false b.core = true) (hc : contentOK b = true) :
    protoToSnapshotBlock (snapshotBlockToProto b) = .ok b := by
  obtain ⟨hrange, _, hkinds, _, hcompat⟩ := (C16.loadGate_iff ..).mp hg
  simp only [contentOK, Bool.and_eq_true, Bool.not_eq_true'] at hc
  obtain ⟨⟨⟨⟨⟨hf, hr⟩, hck⟩, hs⟩, _⟩, _⟩ := hc
  refine (protoToSnapshotBlock_ok_iff ..).mpr ⟨rfl, hrange, .of_content hf hr hck hs, fun ⟨hv, hany⟩ => ?_,
    (compatErr_eq_none ..).mpr hcompat, rfl, hsy, rfl, hpk⟩
  -- at the lowest version every check is a plain `check if`, which is written without a kind
  obtain ⟨c, hcm, hcs⟩ := List.any_eq_true.mp (List.any_map ▸ hany)
  rw [Function.comp, checkToProto, (hkinds (hv ▸ by decide) c hcm).1 (hv ▸ by decide)] at hcs
  cases hcs

theorem reject_sets_v33 (b : Block) (c : Check) (hc : c ∈ b.checks) (hk : c.kind = .reject) :
    (blockFlags codeTerm33 codeOp33 codeOp31 Gen.checkAllDetected Gen.rejectDetected b).v33 = true := by
  have : (b.checks.any fun c => c.kind == .reject) = true := List.any_eq_true.mpr ⟨c, hc, by rw [hk]; rfl⟩
  simp only [blockFlags, Gen.rejectDetected, Bool.true_and, this, Bool.true_or]

theorem compat33_of_flag (f : Flags) (v : Nat) (hf : f.v33 = true) (hv : v < Gen.datalog33) : compatErr f v = some .compat33 := by
  simp only [compatErr, Gen.gate33Unconditional, Bool.true_or, hf, Bool.and_true, hv, decide_true, ↓reduceIte]

/-- **What the snapshot reader accepts passes the version gate too** (the gate of first-party
    blocks: the snapshot reader has no rule for third-party blocks below 3.2, see the witness below). -/
theorem snapshot_accepted_passes_gate (p : PSnapBlock) (b : TBlock) (h : protoToSnapshotBlock p = .ok b) :
    loadGate b.version false b.core = true := by
  obtain ⟨_, hrange, hcore, hkinds, hcompat, _, _⟩ := (protoToSnapshotBlock_ok_iff ..).mp h
  refine (C16.loadGate_iff ..).mpr ⟨hrange, hcore.no_scopes, fun _ c hc => ⟨fun h31 => ?_, fun h33 hrej => ?_⟩, fun _ => rfl,
    (compatErr_eq_none ..).mp hcompat⟩
  · -- below 3.1 the version is the lowest one, where no check has a kind
    obtain ⟨pc, hpcm, hnone, _⟩ := hcore.kind c hc
    have hvmin : b.version = Gen.minSchemaVersion := Nat.le_antisymm (Nat.le_of_lt_succ h31) hrange.1
    exact hnone fun hs => hkinds ⟨hvmin, List.any_eq_true.mpr ⟨pc, hpcm, hs⟩⟩
  · -- a `reject if` is 3.3 content: `check_compatibility` has refused it
    rw [compat33_of_flag _ _ (reject_sets_v33 b.core c hc hrej) h33] at hcompat
    cases hcompat

/-- the snapshot reader takes a third-party block that declares 3.0, which the token reader refuses -/
theorem snapshot_third_party_below_32 :
    (match protoToSnapshotBlock ⟨none, some 3, [], [], [], [], some (some 1)⟩ with | .ok b => b.core.extKey == some 1 | .error _ => false) = true ∧
    (match protoToBlock ⟨[], none, some 3, [], [], [], [], []⟩ (some 1) with | .error .thirdPartyVersion => true | _ => false) = true := by
  constructor <;> rfl

/-! ## non-vacuity -/

/-- a 3.3 third-party block: a fact with a set, a map and an array, a rule with a scope, a closure
    and an extern call, a `reject if`, a block scope naming a key above 2^63, two public keys -/
def exBlock : TBlock :=
  { symbols := [[115, 48]], context := some [99], version := 6,
    core := { facts := [⟨1024, [.set [.int 1, .int 2], .map [(.int 1, .str 1024), (.str 1024, .null)], .arr [.bool true, .arr []]]⟩],
              rules := [⟨⟨⟨1025, [.var 0]⟩, [⟨1024, [.var 0]⟩],
                  [[.value (.var 0), .value (.set [.bytes [1]]), .binary .contains, .unary (.ffi 1024),
                    .closure [1] [.value (.var 1), .value (.int 0), .binary .greaterThan], .binary .any]]⟩, [.previous, .publicKey 1]⟩],
              checks := [⟨.reject, [⟨⟨⟨1026, []⟩, [⟨1025, [.var 2]⟩], []⟩, []⟩]⟩, ⟨.all, []⟩],
              scopes := [.authority, .publicKey 18446744073709551615],
              extKey := some 3 },
    publicKeys := [3, 4] }

example : protoToBlock (blockToProto exBlock) exBlock.core.extKey = .ok exBlock :=
  block_round_trip exBlock (by decide +kernel) (by decide +kernel)

end Biscuit.Convert

