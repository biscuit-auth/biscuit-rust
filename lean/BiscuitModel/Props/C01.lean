/-
  C01 — forged, tampered, spliced or truncated tokens never verify.

  Cryptographic strength is a hypothesis, never a theorem here: `Unforgeable` says that a
  signature that verifies under a protected key was produced by an honest party, over
  exactly that message.  What is proved is that verification *uses* that strength for every
  field: each check the verifier makes is over a payload that binds the block's bytes, next
  key (with its algorithm), signature version, previous signature and external signature,
  under the key the chain designates.
-/
import BiscuitModel.Props.C08
import BiscuitModel.Lemmas.Payload
namespace Biscuit.C01
open Biscuit Biscuit.C02

/-! ## what verification checks, declaratively -/

/-- the chain of blocks after the authority block: each block is signed by the next key of the
    one before it, over its payload, which (version 1) contains the *actual* previous signature;
    an external signature is checked over the block's bytes and that same previous signature -/
inductive Chain (S : Scheme) : PubKey → Bytes → SBlock → List SBlock → SBlock → Prop
  | nil {pk : PubKey} {sig : Bytes} {a : SBlock} : Chain S pk sig a [] a
  | cons {pk : PubKey} {sig : Bytes} {a b l : SBlock} {rest : List SBlock} {p : Bytes} :
      blockPayload b sig = some p → S.verify pk p b.sig = true →
      (∀ e, b.ext = some e → S.verify e.key (externalPayload b sig) e.sig = true) →
      Chain S b.nextKey b.sig b rest l → Chain S pk sig a (b :: rest) l

theorem verifyChain_iff (S : Scheme) :
    ∀ (bs : List SBlock) (pk : PubKey) (sig : Bytes) (a l : SBlock),
      verifyChain S pk sig a bs = some l ↔ Chain S pk sig a bs l := by
  intro bs
  induction bs with
  | nil => exact fun pk sig a l => ⟨fun h => Option.some.inj h ▸ .nil, fun h => by cases h; rfl⟩
  | cons b rest ih =>
    intro pk sig a l
    rw [verifyChain_cons, Option.ite_none_right_eq_some, verifyBlock_iff, ih]
    exact ⟨fun ⟨⟨p, hp, hv, he⟩, hc⟩ => .cons hp hv he hc,
      fun h => by cases h with | cons hp hv he hc => exact ⟨⟨_, hp, hv, he⟩, hc⟩⟩

/-- **A token is accepted under a root key exactly when**: the authority block carries no
    external signature and every third-party block declares signature version 1; the authority
    signature verifies under the root key over the authority payload; the blocks form a chain
    from the authority's next key; and the proof is either the secret of the last next key or a
    seal signature by the last next key over the last block, its next key and its signature. -/
theorem verify_iff_chain (S : Scheme) (root : PubKey) (c : Container) :
    verifyToken S root c = true ↔
      wellFormed c = true ∧
      (∃ p, authorityPayload c.authority = some p ∧ S.verify root p c.authority.sig = true) ∧
      ∃ l, Chain S c.authority.nextKey c.authority.sig c.authority c.blocks l ∧ verifyProof S l c.proof = true := by
  rw [verifyToken_iff, verifyAuthority_iff]
  refine and_congr_right fun _ => and_congr_right fun _ => ⟨fun h => ⟨_, (verifyChain_iff ..).mp h.1, h.2⟩, ?_⟩
  rintro ⟨l, hch, hpr⟩
  have hch := (verifyChain_iff ..).mpr hch
  cases lastBlock_of_chain hch
  exact ⟨hch, hpr⟩

/-! ## unforgeability: what an accepted token must consist of -/

/-- signatures that verify under a protected key are ones honest parties produced, for that key
    and that exact message (strong unforgeability; for ed25519 with strict verification) -/
def Unforgeable (S : Scheme) (protectedKey : PubKey → Prop) (honest : PubKey → Bytes → Bytes → Prop) : Prop :=
  ∀ pk m s, protectedKey pk → S.verify pk m s = true → honest pk m s

/-- **Under any other root key the token is refused**: if no honest party ever signed with a
    protected key `root'`, nothing verifies under it. -/
theorem wrong_root_rejected (S : Scheme) (prot : PubKey → Prop) (honest : PubKey → Bytes → Bytes → Prop)
    (hU : Unforgeable S prot honest) (root' : PubKey) (hp : prot root') (hnone : ∀ m s, ¬ honest root' m s)
    (c : Container) : verifyToken S root' c = false := by
  cases hv : verifyToken S root' c with
  | false => rfl
  | true =>
    obtain ⟨_, ⟨p, _, hs⟩, _⟩ := (verify_iff_chain S root' c).mp hv
    exact absurd (hU root' p _ hp hs) (hnone p _)

/-- the authority block of an accepted token was signed, exactly as presented, by the holder of
    the root key -/
theorem accepted_authority_is_honest (S : Scheme) (prot : PubKey → Prop) (honest : PubKey → Bytes → Bytes → Prop)
    (hU : Unforgeable S prot honest) (root : PubKey) (hp : prot root) (c : Container)
    (hv : verifyToken S root c = true) :
    ∃ p, authorityPayload c.authority = some p ∧ honest root p c.authority.sig := by
  obtain ⟨_, ⟨p, hpay, hs⟩, _⟩ := (verify_iff_chain S root c).mp hv
  exact ⟨p, hpay, hU root p _ hp hs⟩

/-- every block of an accepted token that follows a protected key was signed, exactly as
    presented — bytes, next key, version, previous signature, external signature — by the holder
    of that key; and its external signature by the holder of the stated external key -/
theorem accepted_blocks_are_honest (S : Scheme) (prot : PubKey → Prop) (honest : PubKey → Bytes → Bytes → Prop)
    (hU : Unforgeable S prot honest) :
    ∀ (bs : List SBlock) (pk : PubKey) (sig : Bytes) (a l : SBlock), Chain S pk sig a bs l →
      ∀ (i : Nat) (h : i < bs.length),
        let signer := if i = 0 then pk else (bs[i - 1]'(by omega)).nextKey
        let prev := if i = 0 then sig else (bs[i - 1]'(by omega)).sig
        (prot signer → ∃ p, blockPayload bs[i] prev = some p ∧ honest signer p bs[i].sig) ∧
        (∀ e, bs[i].ext = some e → prot e.key → honest e.key (externalPayload bs[i] prev) e.sig) := by
  intro bs pk sig a l hch
  induction hch with
  | nil => exact fun i h => absurd h (Nat.not_lt_zero i)
  | @cons pk sig a b l rest p hp hv he _ ih =>
    intro i h
    -- in each case the `if`s and the index into `b :: rest` compute
    match i with
    | 0 => exact ⟨fun hpr => ⟨p, hp, hU pk p _ hpr hv⟩, fun e hext hpe => hU e.key _ _ hpe (he e hext)⟩
    | 1 => exact ih 0 (Nat.lt_of_succ_lt_succ h)
    | k + 2 => exact ih (k + 1) (Nat.lt_of_succ_lt_succ h)

/-- **A forged or altered seal is refused**: the final signature of an accepted sealed token was
    made by the holder of the last next key over the last block, its next key and its signature. -/
theorem accepted_seal_is_honest (S : Scheme) (prot : PubKey → Prop) (honest : PubKey → Bytes → Bytes → Prop)
    (hU : Unforgeable S prot honest) (root : PubKey) (c : Container) (s : Bytes) (hs : c.proof = .sealed s)
    (hp : prot c.lastBlock.nextKey) (hv : verifyToken S root c = true) :
    honest c.lastBlock.nextKey (Spec.sealed c.lastBlock.data c.lastBlock.nextKey c.lastBlock.sig) s :=
  hU _ _ _ hp (C08.seal_binds_last_block S root c s hs hv)

/-- a token whose proof is a secret is accepted only if that secret is the secret of the last
    next key: dropping trailing blocks needs the secret of an earlier next key -/
theorem truncation_needs_earlier_secret (S : Scheme) (root : PubKey) (c : Container) (sk : Bytes)
    (hs : c.proof = .secret sk) (hv : verifyToken S root c = true) :
    S.pub c.lastBlock.nextKey.alg sk = some c.lastBlock.nextKey := by
  have := ((verifyToken_iff S root c).mp hv).2.2.2
  rwa [hs, verifyProof_secret] at this

/-! ## the payloads bind every field

    Each layout is a concatenation of fields (`fields_inj`): tags and `le32` numbers have fixed
    lengths, keys and signatures the lengths their algorithms fix, so the block bytes are the one
    field whose length is not known in advance. -/

theorem blockV0_injective (d d' : Bytes) (k k' : PubKey) (ha : k.alg < 4294967296) (ha' : k'.alg < 4294967296)
    (hd : d.length = d'.length) (h : Spec.blockV0 d none k = Spec.blockV0 d' none k') : d = d' ∧ k = k' := by
  -- the empty second field is the absent external signature
  have h := fields_inj (p := [d, [], Gen.le32 k.alg]) (p' := [d', [], Gen.le32 k'.alg]) (s := []) (s' := [])
    (by simp only [List.map_cons, hd, le32_length]) rfl h
  simp only [List.cons.injEq, true_and, and_true] at h
  exact ⟨h.1.1, PubKey.eq_of ha ha' h.1.2 h.2⟩

/-- A version-0 payload starts with the block's protobuf encoding, whose first byte is a field
    key and not 0: that keeps a signature from being presented under the other version, and is
    not a theorem here (the block message is not modelled at byte level). -/
theorem v1_payload_starts_with_tag (v : Nat) (d : Bytes) (k : PubKey) (p : Bytes) (e : Option Bytes) :
    (Spec.blockV1 v d k p e).head? = some 0 := by
  unfold Spec.blockV1
  simp only [List.head?_append]
  rfl

def extField : Option Bytes → Bytes
  | some x => Spec.tagExternalSig ++ x
  | none => []

theorem blockV1_eq (v : Nat) (d : Bytes) (k : PubKey) (p : Bytes) (e : Option Bytes) :
    Spec.blockV1 v d k p e = Spec.authorityV1 v d k ++ Spec.tagPrevSig ++ p ++ extField e := by
  cases e <;> rfl

theorem extField_inj : ∀ {e e' : Option Bytes}, extField e = extField e' → e = e'
  | none, none, _ => rfl
  | some _, some _, h => by rw [List.append_cancel_left h]

theorem extField_length : ∀ {e e' : Option Bytes}, e.map List.length = e'.map List.length →
    (extField e).length = (extField e').length
  | none, none, _ => rfl
  | some _, some _, h => by simp only [extField, List.length_append, Option.some.inj h]

/-- **version-1 block payloads bind every field** whenever the two next keys, the two previous
    signatures and the two external signatures have pairwise equal lengths (no assumption on the
    block bytes) -/
theorem blockV1_injective_fixed (v v' : Nat) (d d' : Bytes) (k k' : PubKey) (p p' : Bytes) (e e' : Option Bytes)
    (hv : v < 4294967296) (hv' : v' < 4294967296) (ha : k.alg < 4294967296) (ha' : k'.alg < 4294967296)
    (hk : k.bytes.length = k'.bytes.length) (hp : p.length = p'.length)
    (he : e.map List.length = e'.map List.length)
    (h : Spec.blockV1 v d k p e = Spec.blockV1 v' d' k' p' e') :
    v = v' ∧ d = d' ∧ k = k' ∧ p = p' ∧ e = e' := by
  have h := fields_inj (p := [Spec.tagBlockVersion, Gen.le32 v, Spec.tagPayload]) (p' := [Spec.tagBlockVersion, Gen.le32 v', Spec.tagPayload])
    (s := [Spec.tagAlgorithm, Gen.le32 k.alg, Spec.tagNextKey, k.bytes, Spec.tagPrevSig, p, extField e])
    (s' := [Spec.tagAlgorithm, Gen.le32 k'.alg, Spec.tagNextKey, k'.bytes, Spec.tagPrevSig, p', extField e'])
    (by simp only [List.map_cons, le32_length])
    (by simp only [List.map_cons, hk, hp, extField_length he, le32_length]) (by rwa [blockV1_eq, blockV1_eq] at h)
  simp only [List.cons.injEq, true_and, and_true] at h
  exact ⟨le32_injective hv hv' h.1, h.2.1, PubKey.eq_of ha ha' h.2.2.1 h.2.2.2.1, h.2.2.2.2.1, extField_inj h.2.2.2.2.2⟩

theorem authorityV1_injective (v v' : Nat) (d d' : Bytes) (k k' : PubKey)
    (hv : v < 4294967296) (hv' : v' < 4294967296) (ha : k.alg < 4294967296) (ha' : k'.alg < 4294967296)
    (hk : k.bytes.length = k'.bytes.length)
    (h : Spec.authorityV1 v d k = Spec.authorityV1 v' d' k') : v = v' ∧ d = d' ∧ k = k' :=
  -- an authority payload is the front part of a block payload
  have := blockV1_injective_fixed v v' d d' k k' [] [] none none hv hv' ha ha' hk rfl rfl
    (by rw [blockV1_eq, blockV1_eq, h])
  ⟨this.1, this.2.1, this.2.2.1⟩

/-- the external (third-party) payload binds the block bytes and the previous signature -/
theorem externalV1_injective (v v' : Nat) (d d' p p' : Bytes) (hv : v < 4294967296) (hv' : v' < 4294967296)
    (hp : p.length = p'.length) (h : Spec.externalV1 v d p = Spec.externalV1 v' d' p') :
    v = v' ∧ d = d' ∧ p = p' := by
  have h := fields_inj (p := [Spec.tagExternalVersion, Gen.le32 v, Spec.tagPayload]) (p' := [Spec.tagExternalVersion, Gen.le32 v', Spec.tagPayload])
    (s := [Spec.tagPrevSig, p]) (s' := [Spec.tagPrevSig, p']) (by simp only [List.map_cons, le32_length])
    (by simp only [List.map_cons, hp]) h
  simp only [List.cons.injEq, true_and, and_true] at h
  exact ⟨le32_injective hv hv' h.1, h.2⟩

/-- the seal payload binds the last block's bytes, next key and signature -/
theorem sealed_injective (d d' : Bytes) (k k' : PubKey) (s s' : Bytes) (ha : k.alg < 4294967296) (ha' : k'.alg < 4294967296)
    (hk : k.bytes.length = k'.bytes.length) (hs : s.length = s'.length)
    (h : Spec.sealed d k s = Spec.sealed d' k' s') : d = d' ∧ k = k' ∧ s = s' := by
  have h := fields_inj (p := []) (p' := []) (s := [Gen.le32 k.alg, k.bytes, s]) (s' := [Gen.le32 k'.alg, k'.bytes, s']) rfl
    (by simp only [List.map_cons, hk, hs, le32_length]) h
  simp only [List.cons.injEq, true_and, and_true] at h
  exact ⟨h.1, PubKey.eq_of ha ha' h.2.1 h.2.2.1, h.2.2.2⟩

/-! ## moving a block: a signature accepted anywhere is accepted only with the fields it was made for -/

/-- an honest signature was made for one message (signatures of distinct messages do not collide) -/
def SigBinds (honest : PubKey → Bytes → Bytes → Prop) : Prop :=
  ∀ pk m m' s, honest pk m s → honest pk m' s → m = m'

/-- all fields of `b` (placed after `prev`) but the block bytes are as long as those of `b₀` (placed
    after `prev₀`); both algorithm numbers fit their four bytes -/
def SameShape (b b₀ : SBlock) (prev prev₀ : Bytes) : Prop :=
  b.nextKey.bytes.length = b₀.nextKey.bytes.length ∧ prev.length = prev₀.length ∧
  (b.ext.map (·.sig.length)) = (b₀.ext.map (·.sig.length)) ∧
  b.nextKey.alg < 4294967296 ∧ b₀.nextKey.alg < 4294967296

/-- **Splicing, reordering and field changes are refused**: let the holder of a protected key
    `pk` have signed the version-1 block `b₀` after previous signature `prev₀`, producing `s`.
    If an accepted chain contains, at a position whose signer is `pk`, a version-1 block `b`
    of the same shape (`SameShape`) carrying that signature, then `b` has the block bytes, next
    key and external signature of `b₀`, and the block before it carries the signature `prev₀` —
    the block cannot have been moved to another position or another token, nor have any bound
    field changed. -/
theorem spliced_block_refused (S : Scheme) (prot : PubKey → Prop) (honest : PubKey → Bytes → Bytes → Prop)
    (hU : Unforgeable S prot honest) (hB : SigBinds honest)
    (pk : PubKey) (hp : prot pk) (b₀ : SBlock) (prev₀ : Bytes)
    (h0 : honest pk (Spec.blockV1 1 b₀.data b₀.nextKey prev₀ (b₀.ext.map (·.sig))) b₀.sig)
    (b : SBlock) (prev : Bytes) (hv1 : b.version.getD 0 = 1) (hs : b.sig = b₀.sig)
    (hshape : SameShape b b₀ prev prev₀)
    (hacc : verifyBlock S pk prev b = true) :
    b.data = b₀.data ∧ b.nextKey = b₀.nextKey ∧ prev = prev₀ ∧ b.ext.map (·.sig) = b₀.ext.map (·.sig) := by
  obtain ⟨p, hpay, hv, _⟩ := (verifyBlock_iff ..).mp hacc
  cases ((C02.payloads_eq_spec b prev).2.1 hv1).1.symm.trans hpay
  have heq := hB pk _ _ _ (hs ▸ hU pk _ _ hp hv) h0
  obtain ⟨hk, hpl, hel, ha, ha'⟩ := hshape
  have := blockV1_injective_fixed 1 1 b.data b₀.data b.nextKey b₀.nextKey prev prev₀ _ _
    (by decide) (by decide) ha ha' hk hpl (by rw [Option.map_map, Option.map_map]; exact hel) heq
  exact ⟨this.2.1, this.2.2.1, this.2.2.2.1, this.2.2.2.2⟩

/-- the hypotheses are jointly satisfiable: in the toy scheme (whose signatures contain the
    message) "verifies" is an honest-signature predicate that is unforgeable and binding, and
    something is signed -/
example : Unforgeable C02.toyScheme (fun _ => True) (fun pk m s => C02.toyScheme.verify pk m s = true) ∧
    SigBinds (fun pk m s => C02.toyScheme.verify pk m s = true) ∧
    C02.toyScheme.verify ⟨0, [2]⟩ [5, 6] [1, 5, 6] = true := by
  refine ⟨fun _ _ _ _ h => h, ?_, by decide⟩
  intro pk m m' s h h'
  simp only [C02.toyScheme, beq_iff_eq] at h h'
  rw [h] at h'
  exact List.append_cancel_left h'

end Biscuit.C01
